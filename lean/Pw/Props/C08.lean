import Pw.Props.C02
/-
  C08 — Bind parameters and format codes reach the handler exactly.
-/
namespace Pw.Props.C08

/-- what a client puts into a Bind message after the two names -/
structure BindSpec where
  pfmts : List Nat            -- parameter format codes
  params : List (Option Bytes) -- parameter values, `none` = NULL
  rfmts : List Nat            -- result-column format codes

/-- the protocol's rule for the format of parameter `i`: no codes → text, one code → that code
    for all, otherwise positional (text beyond the codes given) -/
def paramFormat (pfmts : List Nat) (i : Nat) : Nat :=
  match pfmts with
  | [] => 0
  | [f] => f
  | _ => pfmts.getD i 0

def encValue : Option Bytes → Bytes
  | none => be32 4294967295
  | some v => be32 v.length ++ v

/-- client-side encoding of the Bind tail -/
def encodeBind (b : BindSpec) : Bytes :=
  be16 b.pfmts.length ++ b.pfmts.flatMap be16 ++
  be16 b.params.length ++ b.params.flatMap encValue ++
  be16 b.rfmts.length ++ b.rfmts.flatMap be16

/-- admissible: counts and codes fit their 16-bit fields, value lengths fit 31 bits -/
structure Admissible (b : BindSpec) : Prop where
  npf : b.pfmts.length < 65536
  pf : ∀ f ∈ b.pfmts, f < 65536
  np : b.params.length < 65536
  pv : ∀ p ∈ b.params, ∀ v, p = some v → v.length < 2147483648
  nrf : b.rfmts.length < 65536
  rf : ∀ f ∈ b.rfmts, f < 65536

theorem readCodes_enc {fs : List Nat} (h : ∀ f ∈ fs, f < 65536) (rest : Bytes) :
    readCodes fs.length (fs.flatMap be16 ++ rest) = some (fs, rest) := by
  induction fs with
  | nil => simp [readCodes]
  | cons f fs ih =>
    obtain ⟨hf, hfs⟩ := List.forall_mem_cons.mp h
    simp only [List.length_cons, List.flatMap_cons, List.append_assoc, readCodes, getU16]
    rw [rd16_be16 _ hf]
    simp only []
    rw [ih hfs]

theorem zipWith_congr_mem {α β γ} (f g : α → β → γ) : ∀ (as : List α) (bs : List β),
    (∀ a ∈ as, ∀ b, f a b = g a b) → List.zipWith f as bs = List.zipWith g as bs := by
  intro as
  induction as with
  | nil => intro bs _; simp
  | cons a as ih =>
    intro bs h
    cases bs with
    | nil => simp
    | cons b bs =>
      simp only [List.zipWith_cons_cons]
      rw [h a (by simp) b, ih bs (fun x hx y => h x (by simp [hx]) y)]

theorem getBytes_eq_some {n : Nat} {m v r : Bytes} : getBytes n m = some (v, r) ↔ m = v ++ r ∧ v.length = n := by
  unfold getBytes
  constructor
  · intro h
    split at h
    · cases h
    · cases h
      exact ⟨(List.take_append_drop n m).symm, List.length_take_of_le (by omega)⟩
  · rintro ⟨rfl, rfl⟩
    rw [if_neg (by simp), List.take_left' rfl, List.drop_left' rfl]

/-- the value loop returns the values in order, byte-exact, NULL distinguished from empty,
    each tagged with the format the rule of the Go code assigns to its index -/
theorem readValues_enc (formats : List Nat) (dflt : Nat) (ps : List (Option Bytes))
    (h : ∀ p ∈ ps, ∀ v, p = some v → v.length < 2147483648) (rest : Bytes) :
    ∀ i, readValues formats dflt ps.length i (ps.flatMap encValue ++ rest) =
      some ((List.range ps.length).zipWith
        (fun k p => (if formats.length > i + k then formats.getD (i + k) 0 else dflt, p)) ps, rest) := by
  induction ps with
  | nil => intro i; simp [readValues]
  | cons p ps ih =>
    intro i
    obtain ⟨hp, hps⟩ := List.forall_mem_cons.mp h
    cases p with
    | none =>
      simp only [List.length_cons, List.flatMap_cons, encValue, List.append_assoc, readValues, getU32]
      rw [rd32_be32 _ (by omega)]
      simp only [if_true]
      rw [ih hps (i + 1), List.range_succ_eq_map]
      simp [List.zipWith_map_left, Nat.add_assoc, Nat.add_comm 1]
    | some v =>
      have hv := hp v rfl
      simp only [List.length_cons, List.flatMap_cons, encValue, List.append_assoc, readValues, getU32]
      rw [rd32_be32 _ (by omega)]
      simp only []
      rw [if_neg (by omega), getBytes_eq_some.mpr ⟨rfl, rfl⟩]
      simp only []
      rw [ih hps (i + 1), List.range_succ_eq_map]
      simp [List.zipWith_map_left, Nat.add_assoc, Nat.add_comm 1]

/-- the format rule as written in `readParameters` is the protocol's rule -/
theorem formatRule (pfmts : List Nat) (k : Nat) :
    (if pfmts.length > k then pfmts.getD k 0 else (if pfmts.length = 1 then pfmts.getD 0 0 else 0))
      = if pfmts.length = 1 ∨ pfmts.length > k then paramFormat pfmts k else 0 := by
  match pfmts with
  | [] => simp
  | [f] => cases k <;> simp [paramFormat]
  | f :: g :: r =>
    simp only [List.length_cons, paramFormat]
    by_cases hk : r.length + 1 + 1 > k
    · simp [hk]
    · simp [hk]

/-- **C08 (parameters).** For every admissible Bind the decoder returns exactly what was sent:
    same count and order, byte-identical values, NULL (`none`) distinguished from the empty
    value (`some []`), each tagged by the protocol rule; the result-format codes are returned
    as sent; trailing bytes of the message are left untouched. -/
theorem C08_roundtrip (b : BindSpec) (h : Admissible b) (surplus : Bytes) :
    decodeBindTail (encodeBind b ++ surplus) =
      some ((List.range b.params.length).zipWith
              (fun k p => (if b.pfmts.length = 1 ∨ b.pfmts.length > k then paramFormat b.pfmts k else 0, p)) b.params,
            b.rfmts, surplus) := by
  simp only [decodeBindTail, encodeBind, List.append_assoc, getU16]
  rw [rd16_be16 _ h.npf]
  simp only []
  rw [readCodes_enc h.pf]
  simp only []
  rw [rd16_be16 _ h.np]
  simp only []
  rw [readValues_enc _ _ _ h.pv]
  simp only []
  rw [rd16_be16 _ h.nrf]
  simp only []
  rw [readCodes_enc h.rf]
  simp only [Nat.zero_add]
  congr 2
  apply zipWith_congr_mem
  intro k _ p
  rw [formatRule b.pfmts k]

/-- with an admissible number of codes (0, 1 or one per parameter) every parameter carries
    exactly the protocol's format -/
theorem C08_formats_admissible (b : BindSpec) (h : Admissible b)
    (hc : b.pfmts.length = 0 ∨ b.pfmts.length = 1 ∨ b.pfmts.length = b.params.length) (surplus : Bytes) :
    (decodeBindTail (encodeBind b ++ surplus)).map (·.1) =
      some ((List.range b.params.length).zipWith (fun k p => (paramFormat b.pfmts k, p)) b.params) := by
  rw [C08_roundtrip b h]
  simp only [Option.map_some]
  congr 1
  apply zipWith_congr_mem
  intro k hk p
  simp only [List.mem_range] at hk
  rcases hc with h0 | h1 | hn
  · have : b.pfmts = [] := List.eq_nil_of_length_eq_zero h0
    simp [this, paramFormat]
  · simp [h1]
  · have : b.pfmts.length > k := by omega
    simp [this]

/-! ### result formats: announced = used = the protocol rule -/

/-- the per-column rule of row.go for 0, 1 and one-per-column codes -/
theorem C08_result_rule (formats : List Nat) (ncols i : Nat) (hi : i < ncols) :
    (formats.length = 0 → formatFor formats i = 0) ∧
    (formats.length = 1 → formatFor formats i = formats.getD 0 0) ∧
    (formats.length = ncols → formatFor formats i = formats.getD i 0) := by
  refine ⟨?_, ?_, ?_⟩
  · intro h; simp [formatFor, h]
  · intro h
    simp only [formatFor, h]
    cases i with
    | zero => simp
    | succ k => simp
  · intro h
    have h0 : ¬ formats.length = 0 := by omega
    have h1 : formats.length > i := by omega
    simp [formatFor, h0, h1]

/-- the format announced for column `i` by RowDescription is the format used to encode
    column `i` of every DataRow (one rule, `formatFor`, serves both) -/
theorem C08_announced_is_used (formats : List Nat) (cols : List ColDesc) (i : Nat) (hi : i < cols.length) :
    ((colFormats formats cols)[i]?).map (·.2) = some (formatFor formats i) := by
  simp [colFormats, hi]

/-! ### Describe announces exactly the declared parameter types -/

theorem C08_paramdesc (oids : List Nat) (hn : oids.length < 65536) (ho : ∀ o ∈ oids, o < 4294967296) :
    parseBody (BMsg.paramDesc oids).tag (BMsg.paramDesc oids).body = some (.paramDesc oids) :=
  C02.C02_roundtrip _ ⟨hn, ho⟩

/-- non-vacuity: two parameters (NULL and empty), one binary code for both, two result codes -/
example :
    decodeBindTail (encodeBind { pfmts := [1], params := [none, some []], rfmts := [0, 1] } ++ [9]) =
      some ([(1, none), (1, some [])], [0, 1], [9]) := by decide

/-! ### soundness: the decoder never fabricates -/

theorem readCodes_sound {n : Nat} {m : Bytes} : ∀ {cs : List Nat} {r : Bytes}, readCodes n m = some (cs, r) →
    m = cs.flatMap be16 ++ r ∧ cs.length = n := by
  fun_induction readCodes n m with
  | case1 m => intro cs r h; cases h; exact ⟨rfl, rfl⟩
  | case2 | case3 => nofun
  | case4 n m c r1 h1 cs' r' h2 ih =>
    intro cs r h
    cases h
    rw [(rd16_eq_some.mp h1).1, (ih h2).1, List.length_cons, (ih h2).2]
    exact ⟨(List.append_assoc ..).symm, rfl⟩

/-- **no fabrication**: whatever the value loop returns is literally in the message, at the
    position and with the length the message declares — the input is the encoding of the output -/
theorem readValues_sound (formats : List Nat) (dflt : Nat) : ∀ (n i : Nat) (m : Bytes) (ps : List Param) (r : Bytes),
    readValues formats dflt n i m = some (ps, r) →
    m = (ps.map (·.2)).flatMap encValue ++ r ∧ ps.length = n := by
  intro n i m
  fun_induction readValues formats dflt n i m with
  | case1 i m => intro ps r h; cases h; exact ⟨rfl, rfl⟩
  | case2 | case3 | case5 | case6 => nofun
  | case4 n i m r1 fmt ps' r' h2 h1 ih =>
    -- a NULL
    intro ps r h
    cases h
    rw [(rd32_eq_some.mp h1).1, (ih _ _ h2).1, List.length_cons, (ih _ _ h2).2]
    exact ⟨(List.append_assoc ..).symm, rfl⟩
  | case7 n i m len r1 h1 fmt hlen v r2 hv ps' r' h2 ih =>
    -- a value of `len` bytes
    intro ps r h
    cases h
    obtain ⟨e, rfl⟩ := getBytes_eq_some.mp hv
    rw [(rd32_eq_some.mp h1).1, e, (ih _ _ h2).1, List.length_cons, (ih _ _ h2).2]
    exact ⟨by simp [encValue], rfl⟩

/-- **C08 / C04 (no fabricated parameters).** Whenever the Bind decoder accepts a message body,
    that body IS the client-side encoding of exactly the parameters and result-format codes it
    returns (for some list of parameter format codes), followed by the untouched rest: every value
    handed to the statement function is a contiguous piece of the message of the declared length;
    a lying count or length can only make the decoder reject. -/
theorem C08_sound (m : Bytes) (ps : List Param) (rf : List Nat) (r : Bytes) (h : decodeBindTail m = some (ps, rf, r)) :
    ∃ pf : List Nat, m = encodeBind { pfmts := pf, params := ps.map (·.2), rfmts := rf } ++ r := by
  revert h
  fun_cases decodeBindTail m with
  | case1 | case2 | case3 | case4 | case5 | case6 => nofun
  | case7 nf r1 h1 pf r2 h2 dflt np r3 h3 ps' r4 h4 nr r5 h5 rf' r6 h6 =>
    intro h
    cases h
    obtain ⟨a2, l2⟩ := readCodes_sound h2
    obtain ⟨a4, l4⟩ := readValues_sound _ _ _ _ _ _ _ h4
    obtain ⟨a6, l6⟩ := readCodes_sound h6
    refine ⟨pf, ?_⟩
    rw [(rd16_eq_some.mp h1).1, a2, (rd16_eq_some.mp h3).1, a4, (rd16_eq_some.mp h5).1, a6]
    simp [encodeBind, l2, l4, l6]

end Pw.Props.C08
