import Pw.Lemmas.RepSession
import Pw.Lemmas.Serve
import Pw.Props.C02
import Pw.Props.C12
/-
  C02 for a whole connection: the start-up phases keep the output well-formed (`Ext`), so with `loop_wf` every
  message `serve` writes is well-formed (`C02_session`) and the output parses (`C02_output_parses`); a concrete
  handler set shows the hypotheses satisfiable.
-/
namespace Pw

/-- a representable configuration: the strings it contributes to ParameterStatus are NUL-free -/
def ConfigRep (cfg : Config) : Prop :=
  nulFree cfg.version ∧ ∀ m, cfg.gparams = some m → ∀ kv ∈ m, nulFree kv.1 ∧ nulFree kv.2

def KVNF (kv : Bytes × Bytes) : Prop := nulFree kv.1 ∧ nulFree kv.2

/-- stated on the components, so that a literal key or value meets `nulFree_ascii` as it is written -/
theorem kvnf (k v : Bytes) (hk : nulFree k) (hv : nulFree v) : KVNF (k, v) := ⟨hk, hv⟩

theorem serverParams_nf (cfg : Config) (user : Bytes) (hc : ConfigRep cfg) (hu : nulFree user) :
    ∀ kv ∈ serverParams cfg user, KVNF kv := by
  intro kv hkv
  rcases Props.C12.mem_serverParams hkv with hf | ⟨m, hm, h⟩
  · unfold Props.C12.fixedParams at hf
    have enc : ∀ k, nulFree k → KVNF (k, ascii "UTF8") := fun k hk => kvnf k (ascii "UTF8") hk (nulFree_ascii _ rfl)
    simp only [List.mem_append, List.mem_cons, List.not_mem_nil, or_false] at hf
    rcases hf with ((rfl | rfl) | hv) | rfl | rfl
    · exact enc (ascii "server_encoding") (nulFree_ascii _ rfl)
    · exact enc (ascii "client_encoding") (nulFree_ascii _ rfl)
    · split at hv
      · cases hv
      · rw [List.mem_singleton.mp hv]
        exact kvnf (ascii "server_version") cfg.version (nulFree_ascii _ rfl) hc.1
    · exact kvnf (ascii "is_superuser") (ascii "off") (nulFree_ascii _ rfl) (nulFree_ascii _ rfl)
    · exact kvnf (ascii "session_authorization") user (nulFree_ascii _ rfl) hu
  · exact hc.2 m hm kv h

theorem sendParams_ext : ∀ (ps : List (Bytes × Bytes)) (s : Sess), (∀ kv ∈ ps, KVNF kv) → Ext s (sendParams ps s).1 := by
  intro ps
  induction ps with
  | nil => intro s _; exact .refl s
  | cons kv r ih =>
    intro s hp
    obtain ⟨k, v⟩ := kv
    have hwf : (BMsg.paramStatus k v).WF := hp (k, v) (by simp)
    simp only [sendParams]
    split
    · exact .send ‹_› hwf
    · exact (Ext.send ‹_› hwf).trans (ih _ (fun x hx => hp x (by simp [hx])))

theorem runMiddlewares_ext : ∀ (ms : List Bool) (i : Nat) (s : Sess), Ext s (runMiddlewares ms i s).1 := by
  intro ms
  induction ms with
  | nil => intro i s; exact .refl s
  | cons ok r ih =>
    intro i s
    simp only [runMiddlewares]
    split
    · exact ih (i + 1) (s.log (.mw i))
    · exact .refl s

theorem authPhase_ext (cfg : Config) (h : Handlers) (s : Sess) (db user : Bytes) : Ext s (authPhase cfg h s db user).1 := by
  have auth : ∀ n, n < 4294967296 → (BMsg.auth n).WF := fun _ hn => hn
  refine authPhase_cases (P := fun r => Ext s r.1) cfg h s db user ?_ ?_ ?_ ?_
  · intro s' ok _ hs
    exact .send hs (auth 0 (by decide))
  · intro _ _
    exact .refl s
  · intro s1 i e _ hs _
    exact (Ext.send hs (auth 3 (by decide)) : Ext s s1)
  · intro s1 body i pw r _ hs _ _ _ sv hsv
    -- `Ext` does not see `inp`, `msg` or `ev`
    have e1 : Ext s sv := hsv ▸ (Ext.send hs (auth 3 (by decide)) : Ext s s1)
    exact ⟨fun _ => e1, fun _ => e1.trans (.send rfl (Props.C17.C17_wellformed _ errInvalidPassword_nf)),
      fun _ s' ok hs' => e1.trans (.send hs' (auth 0 (by decide)))⟩

theorem runSession_wf (h : Handlers) (hh : HandlersRep h) (s : Sess) (ho : OutWF s) (hs : StateRep s) :
    OutWF (runSession h s).1 := by
  unfold runSession
  split
  · rename_i s1 heq
    exact (Ext.send heq (m := .ready (ch 'I')) trivial).1 ho
  · rename_i s1 heq
    obtain ⟨ho1, hs1⟩ := (Ext.send heq (m := .ready (ch 'I')) trivial).rep ho hs
    exact loop_wf h hh _ s1 ho1 hs1

theorem readClientParams_nf (fuel : Nat) (m : Bytes) (acc cp : List (Bytes × Bytes))
    (h : readClientParams fuel m acc = some cp) (ha : ∀ kv ∈ acc, nulFree kv.2) : ∀ kv ∈ cp, nulFree kv.2 := by
  fun_induction readClientParams fuel m acc
  case case1 => cases h                                       -- no fuel
  case case2 => cases h                                       -- key not terminated
  case case3 => cases h; exact ha                             -- the empty key ends the list
  case case4 => cases h                                       -- value not terminated
  case case5 k _ _ _ v _ hv ih =>                             -- a value is cut out of a NUL-terminated field
    refine ih h fun x hx => ?_
    rcases (mem_store _ _ _ _).mp hx with rfl | ⟨hx', _⟩
    · exact cstr_nulFree _ _ _ hv
    · exact ha x hx'

theorem serveAfterVersion_wf (cfg : Config) (h : Handlers) (s0 : Sess) (body rest : Bytes) (st : Bool) (ssl : Option UInt8)
    (hc : ConfigRep cfg) (hh : HandlersRep h) (ho : OutWF s0) (hs : StateRep s0) :
    ∀ m ∈ (serveAfterVersion cfg h s0 body rest st ssl).msgs, m.WF := by
  have user_nf : ∀ cp, readClientParams (body.length + 1) body [] = some cp →
      nulFree ((lookup (ascii "user") cp).getD []) := by
    intro cp hcp
    cases hl : lookup (ascii "user") cp with
    | none => exact nulFree_nil
    | some v => exact readClientParams_nf _ _ _ _ hcp (fun _ hkv => nomatch hkv) _ (lookup_mem hl)
  obtain ⟨s, e, cp, sp, heq, hq⟩ := serveAfterVersion_rule (I := fun s => OutWF s ∧ StateRep s) (Q := fun s _ => OutWF s)
    cfg h s0 body rest st ssl (handed := ⟨ho, hs⟩) (setUp := ⟨ho, hs⟩) (closed := fun _ hs => hs.1)
    (authGoesOn := fun s db user hs _ => (authPhase_ext cfg h s db user).rep hs.1 hs.2)
    (authEnds := fun s db user e hs _ => (authPhase_ext cfg h s db user).1 hs.1)
    (params := fun cp hcp s hs => (sendParams_ext _ s (serverParams_nf cfg _ hc (user_nf cp hcp))).rep hs.1 hs.2)
    (middlewares := fun s hs => (runMiddlewares_ext h.mws 0 s).rep hs.1 hs.2)
    (session := fun s hs => runSession_wf h hh s hs.1 hs.2)
  intro m hm
  rw [heq] at hm
  exact hq m (List.mem_reverse.mp hm)

end Pw

namespace Pw.Props.C02

/-- **C02 (session level).** For every representable configuration and every representable set
    of callbacks — strings they supply are NUL-free, counts fit their 16-bit fields, row values fit
    a field — and for EVERY client input, segment of the protocol, fault position and handler
    program, every message the server writes is a well-formed backend message. -/
theorem C02_session (cfg : Config) (h : Handlers) (inp tin : Bytes) (hc : ConfigRep cfg) (hh : HandlersRep h) :
    ∀ m ∈ (serve cfg h inp tin).msgs, m.WF := by
  have init : ∀ w, OutWF (startSess cfg w) ∧ StateRep (startSess cfg w) := fun w =>
    ⟨fun _ => nofun, fun _ _ => nofun, fun _ _ => nofun⟩
  refine serve_cases (P := fun r => ∀ m ∈ r.msgs, m.WF) cfg h inp tin (fun w e st ssl _ => ?_)
    (fun w body rest st ssl => serveAfterVersion_wf _ _ _ _ _ _ _ hc hh (init w).1 (init w).2)
  intro m hm
  cases hm

/-- hence the whole output parses under the strict grammar, message for message (the size
    hypothesis excludes only bodies of 4 GiB and more, which the length field cannot express) -/
theorem C02_output_parses (cfg : Config) (h : Handlers) (inp tin : Bytes) (hc : ConfigRep cfg) (hh : HandlersRep h)
    (hsz : ∀ m ∈ (serve cfg h inp tin).msgs, m.body.length + 4 < 4294967296) :
    parseBackend ((serve cfg h inp tin).msgs.flatMap BMsg.encode) = some (serve cfg h inp tin).msgs :=
  C02_stream _ (fun m hm => ⟨C02_session cfg h inp tin hc hh m hm, hsz m hm⟩)

/-! ### the hypotheses are satisfiable: a concrete representable handler set -/

theorem valRep_text (s : Bytes) (h : s.length < 2147483648) : ValRep (.text s) := by
  intro o f b he
  -- a text value is not the untyped nil; of the four ways on, only one yields `ok (some _)`
  rw [encodeVal, if_neg nofun] at he
  split at he
  · cases he                       -- a format code outside {0, 1}: panic
  split at he
  · cases he                       -- a type without codec: unsupported
  rw [encodeTyped] at he
  split at he
  · cases he                       -- a text type: the string itself
    exact h
  · cases he                       -- any other type: error

theorem valRep_null : ValRep .null := by
  intro o f b he
  simp [encodeVal] at he

def exStmt : Stmt :=
  { cols := [{ name := ascii "greeting", oid := Oid.text }], params := [],
    body := fun _ => .row [.text (ascii "hi"), .null] (fun _ => .row [.text (ascii "hi")]
      (fun r => match r with
        | some (.lib e) => .ret (some e)     -- forwards whatever error the library reported
        | _ => .complete (ascii "SELECT 1") (fun _ => .ret none))) }

def exHandlers : Handlers :=
  { parse := fun q => if q = ascii "boom" then .error (.code (ascii "42601") (.base (ascii "syntax error"))) else .ok [exStmt],
    validate := fun _ _ _ => .accept, mws := [true], terminate := none }

theorem exStmt_rep : StmtRep exStmt := by
  refine ⟨⟨by decide, ?_⟩, by decide, by intro o ho; simp [exStmt] at ho, ?_⟩
  · intro c hc
    simp [exStmt] at hc
    subst hc
    exact ⟨nulFree_ascii _ rfl, by decide, by decide, by decide, by decide⟩
  · intro ps
    refine .row _ _ ?_ (fun r hr => .row _ _ ?_ (fun r2 hr2 => ?_))
    · intro v hv
      simp at hv
      rcases hv with rfl | rfl
      · exact valRep_text _ (by decide)
      · exact valRep_null
    · intro v hv
      simp at hv
      subst hv
      exact valRep_text _ (by decide)
    · cases r2 with
      | none => exact .complete _ _ (nulFree_ascii _ rfl) (fun _ _ => .ret _ (by simp))
      | some e =>
        cases e with
        | lib x => exact .ret _ (fun y hy => by cases hy; exact hr2 (.lib x) rfl)
        | pgxEnc => exact .complete _ _ (nulFree_ascii _ rfl) (fun _ _ => .ret _ (by simp))
        | pgxDec => exact .complete _ _ (nulFree_ascii _ rfl) (fun _ _ => .ret _ (by simp))

theorem exHandlers_rep : HandlersRep exHandlers := by
  intro q
  by_cases hq : q = ascii "boom"
  · simp only [exHandlers, if_pos hq]
    exact ⟨nulFree_ascii _ rfl, nulFree_ascii _ rfl⟩
  · simp only [exHandlers, if_neg hq]
    intro st hst
    rw [List.mem_singleton.mp hst]
    exact exStmt_rep

example : ConfigRep { version := ascii "16.0", gparams := some [(ascii "application_name", ascii "x")] } := by
  refine ⟨nulFree_ascii _ rfl, ?_⟩
  intro m hm kv hkv
  simp at hm; subst hm
  simp at hkv; subst hkv
  exact ⟨nulFree_ascii _ rfl, nulFree_ascii _ rfl⟩

/-- … and the theorem applies to it, for every client -/
example (inp tin : Bytes) : ∀ m ∈ (serve {} exHandlers inp tin).msgs, m.WF :=
  C02_session {} exHandlers inp tin ⟨by decide, by intro m hm; simp at hm⟩ exHandlers_rep

end Pw.Props.C02
