import Pw.Lemmas.Backend
import Pw.Lemmas.Decimal
import Pw.Lemmas.Frame
/-
  C09 — row values round-trip to the client and NULL stays NULL.
-/
namespace Pw.Props.C09

/-- the values that stand for SQL NULL: an untyped nil, a nil pointer, an invalid nullable value -/
def isNull : Val → Bool
  | .null | .tnull | .invalid => true
  | _ => false

theorem encodeVal_typed {o fmt : Nat} {v : Val} (hs : supportedOid o = true) (hf : fmt = 0 ∨ fmt = 1)
    (hv : v ≠ .null) : encodeVal o fmt v = encodeTyped o fmt v := by
  rw [encodeVal, if_neg hv, if_neg (by omega), hs, if_neg (by simp)]

theorem ite_ne {α : Type} {c : Prop} [Decidable c] {a b x : α} (ha : a ≠ x) (hb : b ≠ x) :
    (if c then a else b) ≠ x := by
  split
  · exact ha
  · exact hb

theorem encodeTyped_none (o fmt : Nat) (v : Val) : encodeTyped o fmt v = .ok none ↔ isNull v = true := by
  -- the NULL forms encode to "no value" outright; a typed value never does: whichever way the conditions
  -- on type, range and format go, the branch reached is `ok (some _)`, `err` or `unsupported`
  cases v with
  | null | tnull | invalid => exact ⟨fun _ => rfl, fun _ => rfl⟩
  | junk => exact ⟨nofun, nofun⟩
  | text s => exact ⟨(absurd · (ite_ne nofun nofun)), nofun⟩
  | bool b | bytea s | uuid s | f4 bits | f8 bits => exact ⟨(absurd · (ite_ne (ite_ne nofun nofun) nofun)), nofun⟩
  | int i =>
    refine ⟨(absurd · ?_), nofun⟩
    rw [encodeTyped]
    cases intRange o with
    | none => nofun
    | some r => exact ite_ne nofun (ite_ne nofun nofun)

/-- **NULL stays NULL**: for every supported column type and both formats, the encoder yields
    "no value" (sent as length −1) exactly for the three NULL forms; every other accepted value
    — the empty string and the empty bytea included — yields a value (sent with its length,
    0 for empty) -/
theorem C09_null_iff (o fmt : Nat) (v : Val) (hs : supportedOid o = true) (hf : fmt = 0 ∨ fmt = 1) :
    (encodeVal o fmt v = .ok none ↔ isNull v = true) := by
  by_cases hv : v = .null
  · rw [hv, encodeVal, if_pos rfl]
    exact ⟨fun _ => rfl, fun _ => rfl⟩
  · rw [encodeVal_typed hs hf hv]
    exact encodeTyped_none o fmt v

/-- NULL on the wire: length −1 and no payload; an empty value: length 0 -/
theorem C09_null_wire : encField none = [255, 255, 255, 255] ∧ encField (some []) = [0, 0, 0, 0] := by
  constructor <;> decide

/-- the DataRow has exactly one field per declared column -/
theorem encodeRow_length (formats : List Nat) : ∀ (cols : List ColDesc) (vals : List Val) (i : Nat) (fields : List (Option Bytes)),
    vals.length = cols.length → encodeRow formats i cols vals = .ok fields → fields.length = cols.length := by
  intro cols vals i fields hl h
  rw [(encodeRow_ok formats cols vals i fields h).1, hl, Nat.min_self]

/-- **DataRow**: field `k` of the row is the encoding of value `k` for column `k`'s type in the
    format the portal's result-format codes assign to column `k` (the same `formatFor` the
    RowDescription announces, C08_announced_is_used) -/
theorem encodeRow_fields (formats : List Nat) : ∀ (cols : List ColDesc) (vals : List Val) (i : Nat) (fields : List (Option Bytes)),
    encodeRow formats i cols vals = .ok fields →
    ∀ k (hk : k < cols.length) (hv : k < vals.length),
      ∃ f, fields[k]? = some f ∧ encodeVal (cols[k]).oid (formatFor formats (i + k)) (vals[k]) = .ok f := by
  intro cols vals i fields h
  exact (encodeRow_ok formats cols vals i fields h).2

/-- **the row on the wire**: when `Row` reports success, exactly one message was written, it is
    the DataRow whose fields are `encodeRow` of the values — so (with `encodeRow_length`,
    `encodeRow_fields`, C02_roundtrip for the framing) the client receives one field per declared
    column, each the encoding of the value the handler wrote; in every other case nothing is
    written at all: no partial or altered row ever reaches the client -/
theorem C09_row_message (d : DW) (s : Sess) (vals : List Val) :
    let r := dwRow d s vals
    (r.1 = .res none → ∃ fields, encodeRow d.formats 0 d.cols vals = .ok fields ∧
        fields.length = d.cols.length ∧ r.2.2.out = .dataRow fields :: s.out) ∧
    (r.1 ≠ .res none → r.2.2.out = s.out) := by
  dsimp only
  fun_cases dwRow d s vals
  -- closed writer, wrong arity, a value that does not encode: an error or a panic, and nothing is sent
  case case1 | case2 | case3 | case4 | case5 => exact ⟨nofun, fun _ => rfl⟩
  case case6 hc hl fields he s' hs =>
    obtain ⟨w, -, rfl⟩ := send_true hs
    exact ⟨fun _ => ⟨fields, he, encodeRow_length _ _ _ _ _ (by simpa using hl) he, rfl⟩, fun h => absurd rfl h⟩
  case case7 s' hs =>
    -- the write failed
    rw [(send_false hs).1]
    exact ⟨nofun, fun _ => rfl⟩

/-! ### codec round trips (model of the pgx codecs; tied by the campaign's independent decoder) -/

theorem ofU64_toU64 (i : Int) (h1 : -9223372036854775808 ≤ i) (h2 : i ≤ 9223372036854775807) :
    ofU64 (toU64 i) = i := by
  unfold ofU64 toU64; split <;> omega

theorem intRange_some {o : Nat} {lo hi : Int} (h : intRange o = some (lo, hi)) :
    (o = Oid.int2 ∧ lo = -32768 ∧ hi = 32767) ∨ (o = Oid.int4 ∧ lo = -2147483648 ∧ hi = 2147483647) ∨
    (o = Oid.int8 ∧ lo = -9223372036854775808 ∧ hi = 9223372036854775807) := by
  unfold intRange at h
  split at h
  · cases h
    exact .inl ⟨‹_›, rfl, rfl⟩
  · split at h
    · cases h
      exact .inr (.inl ⟨‹_›, rfl, rfl⟩)
    · split at h
      · cases h
        exact .inr (.inr ⟨‹_›, rfl, rfl⟩)
      · cases h

theorem intRange_supported {o : Nat} {lo hi : Int} (h : intRange o = some (lo, hi)) : supportedOid o = true := by
  obtain ⟨rfl, -⟩ | ⟨rfl, -⟩ | ⟨rfl, -⟩ := intRange_some h <;> rfl

/-- binary integers of every width round-trip over their whole range -/
theorem C09_int_binary (o : Nat) (i : Int) (lo hi : Int) (hr : intRange o = some (lo, hi)) (h1 : lo ≤ i) (h2 : i ≤ hi) :
    ∀ b, encodeVal o 1 (.int i) = .ok (some b) → decodeVal o 1 (some b) = .ok (.int i) := by
  intro b he
  have hrange : ¬ (i < lo ∨ i > hi) := by omega
  rw [encodeVal_typed (intRange_supported hr) (.inr rfl) (by simp)] at he
  simp only [encodeTyped, hr, hrange, if_false, if_true] at he
  cases he
  obtain ⟨rfl, rfl, rfl⟩ | ⟨rfl, rfl, rfl⟩ | ⟨rfl, rfl, rfl⟩ := intRange_some hr
  -- `decodeVal.eq_def` here and below: with `decodeVal` simp first derives the function's equations, which
  -- takes ten seconds for the four-byte list pattern of its float4 branch
  · simp [decodeVal.eq_def, supportedOid, Oid.int2, Oid.text, Oid.varchar, Oid.ztext, Oid.int4, Oid.int8, intWidth, beInt,
      rd16_be16' _ (toU16_lt i), ofU16_toU16 i h1 (by omega)]
  · simp [decodeVal.eq_def, supportedOid, Oid.int2, Oid.text, Oid.varchar, Oid.ztext, Oid.int4, Oid.int8, intWidth, beInt,
      rd32_be32' _ (toU32_lt i), ofU32_toU32 i h1 (by omega)]
  · have hl : (be64 (toU64 i)).length = 8 := rfl
    have hlt : toU64 i < 18446744073709551616 := by unfold toU64; omega
    simp [decodeVal.eq_def, supportedOid, Oid.int2, Oid.text, Oid.varchar, Oid.ztext, Oid.int4, Oid.int8, intWidth, beInt,
      rd64_be64 _ hlt, ofU64_toU64 i h1 h2, hl]

/-- text-format integers of every width round-trip over their whole range
    (`strconv.ParseInt` inverts `strconv.FormatInt`, `parseIntText_decInt`) -/
theorem C09_int_text (o : Nat) (i : Int) (lo hi : Int) (hr : intRange o = some (lo, hi)) (h1 : lo ≤ i) (h2 : i ≤ hi) :
    encodeVal o 0 (.int i) = .ok (some (decInt i)) ∧ decodeVal o 0 (some (decInt i)) = .ok (.int i) := by
  have hsup := intRange_supported hr
  have hrange : ¬ (i < lo ∨ i > hi) := by omega
  constructor
  · rw [encodeVal_typed hsup (.inl rfl) (by simp)]
    simp [encodeTyped, hr, hrange]
  · have ho : o = Oid.int2 ∨ o = Oid.int4 ∨ o = Oid.int8 := by
      obtain ⟨h, -⟩ | ⟨h, -⟩ | ⟨h, -⟩ := intRange_some hr <;> simp [h]
    have hnt : ¬ (o = Oid.text ∨ o = Oid.varchar ∨ o = Oid.ztext) := by
      rcases ho with rfl | rfl | rfl <;> decide
    simp [decodeVal.eq_def, hsup, hnt, ho, hr, parseIntText_decInt i lo hi h1 h2]

/-- text and varchar: every byte string round-trips in both formats (the empty one included) -/
theorem C09_text (o fmt : Nat) (s : Bytes) (ho : o = Oid.text ∨ o = Oid.varchar ∨ o = Oid.ztext) (hf : fmt = 0 ∨ fmt = 1) :
    encodeVal o fmt (.text s) = .ok (some s) ∧ decodeVal o fmt (some s) = .ok (.text s) := by
  have hf' : ¬ (fmt ≠ 0 ∧ fmt ≠ 1) := by omega
  rcases ho with rfl | rfl | rfl <;> simp [encodeVal, encodeTyped, decodeVal.eq_def, supportedOid, Oid.text, Oid.varchar, Oid.ztext, hf']

/-- bytea, bool, uuid in binary format -/
theorem C09_bytea_binary (s : Bytes) :
    encodeVal Oid.bytea 1 (.bytea s) = .ok (some s) ∧ decodeVal Oid.bytea 1 (some s) = .ok (.bytea s) := by
  simp [encodeVal, encodeTyped, decodeVal.eq_def, supportedOid, Oid.bytea, Oid.text, Oid.varchar, Oid.ztext, Oid.int2, Oid.int4, Oid.int8, Oid.bool]

theorem C09_bool_binary (b : Bool) :
    ∃ e, encodeVal Oid.bool 1 (.bool b) = .ok (some e) ∧ decodeVal Oid.bool 1 (some e) = .ok (.bool b) := by
  cases b <;> simp [encodeVal, encodeTyped, decodeVal.eq_def, supportedOid, Oid.bool, Oid.text, Oid.varchar, Oid.ztext, Oid.int2, Oid.int4, Oid.int8]

theorem C09_uuid_binary (s : Bytes) (h : s.length = 16) :
    encodeVal Oid.uuid 1 (.uuid s) = .ok (some s) ∧ decodeVal Oid.uuid 1 (some s) = .ok (.uuid s) := by
  simp [encodeVal, encodeTyped, decodeVal.eq_def, supportedOid, Oid.uuid, Oid.bytea, Oid.bool, Oid.text, Oid.varchar, Oid.ztext, Oid.int2, Oid.int4,
    Oid.int8, h]

end Pw.Props.C09
