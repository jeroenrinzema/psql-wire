import Pw.Lemmas.Frame
import Pw.Lemmas.Bytes
import Pw.Model.Serve
/-
  C12 — startup negotiation delivers parameters both ways, once, in order.
-/
namespace Pw.Props.C12

/-- client-side encoding of the key/value pairs of a startup packet -/
def encPair (p : Bytes × Bytes) : Bytes := p.1 ++ ([0] ++ (p.2 ++ [0]))
def encPairs (kv : List (Bytes × Bytes)) : Bytes := kv.flatMap encPair

/-- what handlers must see: the last value sent for each key -/
def lastWins (kv : List (Bytes × Bytes)) : List (Bytes × Bytes) := kv.foldl (fun m p => store p.1 p.2 m) []

theorem readClientParams_enc (kv : List (Bytes × Bytes))
    (h : ∀ p ∈ kv, p.1 ≠ [] ∧ nulFree p.1 ∧ nulFree p.2) (rest : Bytes) :
    ∀ (acc : List (Bytes × Bytes)) (fuel : Nat), kv.length < fuel →
      readClientParams fuel (encPairs kv ++ 0 :: rest) acc = some (kv.foldl (fun m p => store p.1 p.2 m) acc) := by
  induction kv with
  | nil =>
    intro acc fuel hf
    cases fuel with
    | zero => omega
    | succ f => simp [encPairs, readClientParams, cstr]
  | cons p ps ih =>
    intro acc fuel hf
    obtain ⟨⟨hne, hk, hv⟩, hps⟩ := List.forall_mem_cons.mp h
    cases fuel with
    | zero => omega
    | succ f =>
      have hf' : ps.length < f := by simp at hf; omega
      simp only [encPairs, List.flatMap_cons, encPair, List.append_assoc, readClientParams]
      rw [cstr_append'' p.1 hk _]
      simp only [hne, if_false]
      rw [cstr_append'' p.2 hv _]
      have := ih hps (store p.1 p.2 acc) f hf'
      simp only [encPairs] at this
      simpa using this

/-- **client parameters**: for every list of key/value pairs (duplicates, empty values
    allowed) the handlers see exactly the pairs sent, the last value winning for a repeated key;
    what follows the terminator inside the packet is ignored -/
theorem C12_client_params (kv : List (Bytes × Bytes))
    (h : ∀ p ∈ kv, p.1 ≠ [] ∧ nulFree p.1 ∧ nulFree p.2) (rest : Bytes) :
    readClientParams ((encPairs kv ++ 0 :: rest).length + 1) (encPairs kv ++ 0 :: rest) [] = some (lastWins kv) := by
  apply readClientParams_enc kv h rest [] _
  have : kv.length ≤ (encPairs kv).length := by
    clear h
    induction kv with
    | nil => simp
    | cons p ps ih => simp only [encPairs, List.flatMap_cons, encPair, List.length_append, List.length_cons] at ih ⊢; omega
  simp only [List.length_append, List.length_cons]
  omega

/-- a packet whose pairs are not closed by the terminator reaches no callback: the connection
    ends (the reader reports the missing NUL) -/
theorem C12_missing_terminator (k : Bytes) (hk : nulFree k) (hne : k ≠ []) (fuel : Nat) :
    readClientParams (fuel + 1) k [] = none := by
  have : cstr k = none := by
    induction k with
    | nil => rfl
    | cons b r ih =>
      obtain ⟨hb, hr⟩ := List.forall_mem_cons.mp hk
      unfold cstr
      simp only [hb, if_false]
      cases r with
      | nil => rfl
      | cons c r' => rw [ih hr (by simp)]
  simp [readClientParams, this]

/-! ### the server's ParameterStatus set

  `serverParams` is a run of `store`s (`storeAll`): the configured map first, then the parameters
  `writeParameters` sets itself (`fixedParams`), whose keys are distinct; sorting keeps the members. -/

theorem mem_insertSorted (kv p : Bytes × Bytes) (m : List (Bytes × Bytes)) :
    p ∈ insertSorted kv m ↔ p = kv ∨ p ∈ m := by
  induction m with
  | nil => simp [insertSorted]
  | cons x r ih =>
    unfold insertSorted
    split
    · simp
    · simp only [List.mem_cons, ih]
      exact or_left_comm

theorem mem_sortParams (p : Bytes × Bytes) (m : List (Bytes × Bytes)) : p ∈ sortParams m ↔ p ∈ m := by
  induction m with
  | nil => simp [sortParams]
  | cons x r ih =>
    simp only [sortParams, List.foldr_cons] at ih ⊢
    rw [mem_insertSorted, ih]
    simp

def storeAll (l acc : List (Bytes × Bytes)) : List (Bytes × Bytes) := l.foldl (fun m kv => store kv.1 kv.2 m) acc

theorem mem_storeAll {p : Bytes × Bytes} : ∀ {l acc : List (Bytes × Bytes)}, p ∈ storeAll l acc → p ∈ l ∨ p ∈ acc
  | [], _, h => Or.inr h
  | x :: xs, acc, h => by
    rcases mem_storeAll (l := xs) h with h' | h'
    · exact Or.inl (List.mem_cons_of_mem _ h')
    · rcases (mem_store _ _ _ _).mp h' with rfl | ⟨h'', _⟩
      · exact Or.inl (List.mem_cons_self ..)
      · exact Or.inr h''

theorem mem_storeAll_of_distinct {p : Bytes × Bytes} : ∀ {l : List (Bytes × Bytes)} (acc : List (Bytes × Bytes)),
    l.Pairwise (fun a b => a.1 ≠ b.1) → p ∈ l → p ∈ storeAll l acc := by
  have keep : ∀ (l acc : List (Bytes × Bytes)), (∀ x ∈ l, x.1 ≠ p.1) → p ∈ acc → p ∈ storeAll l acc := by
    intro l
    induction l with
    | nil => intro acc _ h; exact h
    | cons x xs ih =>
      intro acc hx h
      exact ih _ (fun y hy => hx y (List.mem_cons_of_mem _ hy))
        ((mem_store _ _ _ _).mpr (Or.inr ⟨h, (hx x (List.mem_cons_self ..)).symm⟩))
  intro l
  induction l with
  | nil => intro _ _ h; cases h
  | cons x xs ih =>
    intro acc hd h
    rw [List.pairwise_cons] at hd
    rcases List.mem_cons.mp h with rfl | h
    · exact keep xs _ (fun y hy => (hd.1 y hy).symm) ((mem_store _ _ _ _).mpr (Or.inl rfl))
    · exact ih _ hd.2 h

/-- the parameters `writeParameters` sets itself, in the order it sets them -/
def fixedParams (cfg : Config) (user : Bytes) : List (Bytes × Bytes) :=
  [(ascii "server_encoding", ascii "UTF8"), (ascii "client_encoding", ascii "UTF8")] ++
  (if cfg.version = [] then [] else [(ascii "server_version", cfg.version)]) ++
  [(ascii "is_superuser", ascii "off"), (ascii "session_authorization", user)]

theorem serverParams_eq (cfg : Config) (user : Bytes) :
    serverParams cfg user = sortParams (storeAll (fixedParams cfg user)
      (match cfg.gparams with | none => [] | some m => storeAll m [])) := by
  unfold serverParams fixedParams storeAll
  by_cases hv : cfg.version = []
  · simp only [hv, if_true, List.append_nil, List.cons_append, List.nil_append, List.foldl_cons, List.foldl_nil]
    rfl
  · simp only [hv, if_false, List.cons_append, List.nil_append, List.foldl_cons, List.foldl_nil]
    rfl

theorem paramKeys_distinct :
    [ascii "server_encoding", ascii "client_encoding", ascii "server_version", ascii "is_superuser",
      ascii "session_authorization"].Pairwise (· ≠ ·) := by
  rw [ascii_ofList, ascii_ofList, ascii_ofList, ascii_ofList, ascii_ofList]
  decide

theorem fixedParams_distinct (cfg : Config) (user : Bytes) :
    (fixedParams cfg user).Pairwise (fun a b => a.1 ≠ b.1) := by
  refine List.pairwise_map.mp ?_
  unfold fixedParams
  by_cases hv : cfg.version = []
  · simp only [if_pos hv, List.append_nil, List.cons_append, List.nil_append, List.map_cons, List.map_nil]
    exact paramKeys_distinct.sublist (by simp)
  · simp only [if_neg hv, List.cons_append, List.nil_append, List.map_cons, List.map_nil]
    exact paramKeys_distinct

theorem fixedParams_sub (cfg : Config) (user : Bytes) (p : Bytes × Bytes) (hp : p ∈ fixedParams cfg user) :
    p ∈ serverParams cfg user := by
  rw [serverParams_eq, mem_sortParams]
  exact mem_storeAll_of_distinct _ (fixedParams_distinct cfg user) hp

theorem mem_serverParams {cfg : Config} {user : Bytes} {p : Bytes × Bytes} (h : p ∈ serverParams cfg user) :
    p ∈ fixedParams cfg user ∨ ∃ m, cfg.gparams = some m ∧ p ∈ m := by
  rw [serverParams_eq, mem_sortParams] at h
  refine (mem_storeAll h).imp_right fun h => ?_
  cases hg : cfg.gparams with
  | none => rw [hg] at h; cases h
  | some m =>
    rw [hg] at h
    exact ⟨m, rfl, (mem_storeAll h).resolve_right (List.not_mem_nil)⟩

/-- **ParameterStatus content**: every parameter the server announces carries the prescribed
    value — UTF8 for both encodings (whatever the configured map says), `off` for
    is_superuser, the connecting user for session_authorization, the configured version — or
    comes unchanged from the configured map -/
theorem C12_param_values (cfg : Config) (user : Bytes) (k v : Bytes)
    (h : (k, v) ∈ serverParams cfg user) :
    (k = ascii "session_authorization" ∧ v = user) ∨
    (k = ascii "is_superuser" ∧ v = ascii "off") ∨
    (k = ascii "server_version" ∧ v = cfg.version ∧ cfg.version ≠ []) ∨
    (k = ascii "client_encoding" ∧ v = ascii "UTF8") ∨
    (k = ascii "server_encoding" ∧ v = ascii "UTF8") ∨
    (∃ m, cfg.gparams = some m ∧ (k, v) ∈ m) := by
  rcases mem_serverParams h with h | h
  · unfold fixedParams at h
    simp only [List.mem_append, List.mem_cons, List.not_mem_nil, or_false, Prod.mk.injEq] at h
    rcases h with ((h | h) | hver) | h | h
    · exact Or.inr (Or.inr (Or.inr (Or.inr (Or.inl h))))
    · exact Or.inr (Or.inr (Or.inr (Or.inl h)))
    · split at hver
      · cases hver
      · rename_i hv
        rw [List.mem_singleton, Prod.mk.injEq] at hver
        exact Or.inr (Or.inr (Or.inl ⟨hver.1, hver.2, hv⟩))
    · exact Or.inr (Or.inl h)
    · exact Or.inl h
  · exact Or.inr (Or.inr (Or.inr (Or.inr (Or.inr h))))

/-- the fixed parameters are always announced -/
theorem C12_params_present (cfg : Config) (user : Bytes) :
    (ascii "session_authorization", user) ∈ serverParams cfg user ∧
    (ascii "is_superuser", ascii "off") ∈ serverParams cfg user ∧
    (ascii "client_encoding", ascii "UTF8") ∈ serverParams cfg user ∧
    (ascii "server_encoding", ascii "UTF8") ∈ serverParams cfg user ∧
    (cfg.version ≠ [] → (ascii "server_version", cfg.version) ∈ serverParams cfg user) := by
  refine ⟨fixedParams_sub _ _ _ ?_, fixedParams_sub _ _ _ ?_, fixedParams_sub _ _ _ ?_,
    fixedParams_sub _ _ _ ?_, fun hv => fixedParams_sub _ _ _ ?_⟩
  · exact List.mem_append_right _ (.tail _ (.head _))
  · exact List.mem_append_right _ (.head _)
  · exact List.mem_append_left _ (List.mem_append_left _ (.tail _ (.head _)))
  · exact List.mem_append_left _ (List.mem_append_left _ (.head _))
  · refine List.mem_append_left _ (List.mem_append_right _ ?_)
    rw [if_neg hv]
    exact .head _

/-- **CancelRequest** as the first packet: closed, nothing written, no callback -/
theorem C12_cancel (cfg : Config) (h : Handlers) (inp tin body rest b' : Bytes)
    (h1 : readUntyped (effLimit cfg.L) inp = .msg body rest) (h2 : getU32 body = some (versionCancel, b')) :
    (serve cfg h inp tin).msgs = [] ∧ (serve cfg h inp tin).ssl = none ∧ (serve cfg h inp tin).ev = [] ∧
    (serve cfg h inp tin).ending = .closed := by
  simp [serve, h1, h2, finish]

/-- **CancelRequest after a refused SSL negotiation**: the single byte 'N' is all the client
    ever gets; closed, no callback -/
theorem C12_cancel_after_N (cfg : Config) (h : Handlers) (inp tin body rest b' body2 rest2 b2 : Bytes)
    (htls : cfg.tls < 2) (hw : cfg.wleft = none)
    (h1 : readUntyped (effLimit cfg.L) inp = .msg body rest) (h2 : getU32 body = some (versionSSL, b'))
    (h3 : readUntyped (effLimit cfg.L) rest = .msg body2 rest2) (h4 : getU32 body2 = some (versionCancel, b2)) :
    (serve cfg h inp tin).msgs = [] ∧ (serve cfg h inp tin).ssl = some (ch 'N') ∧ (serve cfg h inp tin).ev = [] ∧
    (serve cfg h inp tin).ending = .closed := by
  have hv : versionSSL ≠ versionCancel := by decide
  simp [serve, h1, h2, h3, h4, hv, htls, writeRaw, hw, finish]

end Pw.Props.C12
