import Pw.Lemmas.Frame
import Pw.Model.Serve
/-
  C19 — session lifecycle: middleware order, terminate hook.
-/
namespace Pw.Props.C19

/-- index of the first failing middleware, if any -/
def firstFail : List Bool → Option Nat
  | [] => none
  | ok :: r => if ok then (firstFail r).map (· + 1) else some 0

def mwEvents (i n : Nat) : List Event := ((List.range n).map (fun j => Event.mw (i + j))).reverse

theorem mwEvents_succ (i n : Nat) : mwEvents i (n + 1) = mwEvents (i + 1) n ++ [Event.mw i] := by
  simp only [mwEvents, List.range_succ_eq_map, List.map_cons, List.map_map, List.reverse_cons, Nat.add_zero]
  congr 2
  apply List.map_congr_left
  intro a _
  simp [Function.comp, Nat.add_assoc, Nat.add_comm 1]

/-- **middleware chain**: for ANY number of middlewares they run once each, in registration
    order, up to and including the first failing one; nothing is written; the chain succeeds
    exactly when none fails -/
theorem C19_chain : ∀ (mws : List Bool) (i : Nat) (s : Sess),
    (runMiddlewares mws i s).1.out = s.out ∧
    (runMiddlewares mws i s).2 = (firstFail mws).isNone ∧
    (runMiddlewares mws i s).1.ev =
      mwEvents i (match firstFail mws with | none => mws.length | some k => k + 1) ++ s.ev := by
  intro mws
  induction mws with
  | nil => intro i s; simp [runMiddlewares, firstFail, mwEvents]
  | cons ok r ih =>
    intro i s
    cases ok with
    | false => simp [runMiddlewares, firstFail, Sess.log, mwEvents]
    | true =>
      obtain ⟨a, b, c⟩ := ih (i + 1) (s.log (.mw i))
      simp only [runMiddlewares, if_true, firstFail]
      refine ⟨by simpa [Sess.log] using a, ?_, ?_⟩
      · rw [b]; cases firstFail r <;> rfl
      · rw [c]
        cases hf : firstFail r with
        | none => simp only [Option.map_none, List.length_cons, Sess.log, mwEvents_succ, List.append_assoc, List.cons_append, List.nil_append]
        | some k => simp only [Option.map_some, Sess.log, mwEvents_succ, List.append_assoc, List.cons_append, List.nil_append]

/-- a middleware error ends the connection before any command is served: no ReadyForQuery, no
    parser or statement callback — whatever the client has pipelined -/
theorem C19_failure_ends (cfg : Config) (h : Handlers) (s0 : Sess) (body rest : Bytes) (cp : List (Bytes × Bytes))
    (hcp : readClientParams (body.length + 1) body [] = some cp)
    (s1 : Sess)
    (hauth : authPhase cfg h (sessionStart s0 rest)
        ((lookup (ascii "database") cp).getD []) ((lookup (ascii "user") cp).getD []) = (s1, none))
    (s2 : Sess) (hpar : sendParams (serverParams cfg ((lookup (ascii "user") cp).getD [])) s1 = (s2, true))
    (hfail : (firstFail h.mws).isSome) :
    let r := serveAfterVersion cfg h s0 body rest
    r.ending = .closed ∧ r.msgs = (runMiddlewares h.mws 0 s2).1.out.reverse ∧
    r.ev = (runMiddlewares h.mws 0 s2).1.ev.reverse := by
  intro r
  have hm := (C19_chain h.mws 0 s2).2.1
  have hfalse : (runMiddlewares h.mws 0 s2).2 = false := by
    rw [hm]; cases hq : firstFail h.mws <;> simp_all
  simp only [r, serveAfterVersion, hcp, hauth, hpar]
  rcases hrm : runMiddlewares h.mws 0 s2 with ⟨s3, ok⟩
  rw [hrm] at hfalse
  simp only at hfalse
  subst hfalse
  simp [finish]

/-- **Terminate**: the hook (when configured) runs exactly once, the connection is closed and
    the command loop stops — nothing behind the Terminate is ever looked at -/
theorem C19_terminate (h : Handlers) (s : Sess) (body : Bytes) (rest : List Item) (fuel : Nat)
    (hi : s.inp.items = .msg (ch 'X') body :: rest) :
    loop h (fuel + 1) s =
      (match h.terminate with
       | none => { s with inp := { s.inp with items := rest, msg := body } }
       | some _ => ({ s with inp := { s.inp with items := rest, msg := body } } : Sess).log .terminate,
       .closed) := by
  simp only [loop, stepCommand, Inp.next, hi, handleCommand_terminate]
  cases h.terminate <;> rfl

end Pw.Props.C19
