import Pw.Generated.TransCache
import Pw.Lemmas.Frame
import Pw.Lemmas.Bytes
/-
  The statement / portal caches of cache.go as translated (`TransCache.DefaultStatementCache_*`,
  `TransCache.DefaultPortalCache_*`) against the model's name maps (`Sess.stmts`, `Sess.portals` with
  `store` / `lookup` / `remove`, Model/Session.lean) and their laws (Lemmas/Frame.lean).

  `ca_stmts`, `ca_portals` are the Go maps as the model's association lists, from names to addresses
  (`Option Nat`: `*Statement` / `*Portal`); `ca_modelStmts` and `ca_portalView` dereference them.  The translated
  code never modifies an object in the heaps (each closed form below leaves a heap alone or appends to it), which is
  why holding the address is as good as the model's holding the value.
-/
namespace Pw.Tie
open Pw.Go.Cache Pw.TransCache

theorem cache_untranslatable_nil : TransCache.untranslatable = [] := rfl

/-- the structs behind `StmtCacheS`, `PortalCacheS`, `StatementV`, `PortalV`, `PreparedStatementV` of RtCache.lean -/
theorem cache_struct_layout :
    TransCache.structDefaultStatementCache = [("statements", "map[string]*Statement"), ("mu", "sync.RWMutex")] ∧
    TransCache.structDefaultPortalCache = [("portals", "map[string]*Portal"), ("mu", "sync.RWMutex")] ∧
    TransCache.structStatement = [("fn", "PreparedStatementFn"), ("parameters", "[]oid.Oid"), ("columns", "Columns")] ∧
    TransCache.structPortal = [("statement", "*Statement"), ("parameters", "[]Parameter"), ("formats", "[]FormatCode")] ∧
    TransCache.structPreparedStatement = [("fn", "PreparedStatementFn"), ("parameters", "[]oid.Oid"), ("columns", "Columns")] :=
  ⟨rfl, rfl, rfl, rfl, rfl⟩

/-! ### Go maps against the model's association lists -/

/-- a Go map as the model's name map (the nil map has no entries) -/
def ca_absP {α : Type} (m : GoMap α) : List (Bytes × α) := m.getD []

theorem ca_alGet_lookup {α : Type} (k : Bytes) (l : List (Bytes × α)) : alGet k l = lookup k l := by
  induction l with
  | nil => rfl
  | cons kv l ih => obtain ⟨k', v⟩ := kv; simp [alGet, lookup, ih]

theorem ca_alDelete_remove {α : Type} (k : Bytes) (l : List (Bytes × α)) : alDelete k l = remove k l := by
  induction l with
  | nil => rfl
  | cons kv l ih =>
    obtain ⟨k', v⟩ := kv
    rw [remove_cons]
    simp [alDelete, ih]

/-- `v, has := m[k]` is the model's `lookup` (also on the nil map) -/
theorem ca_mapGet_lookup {α : Type} (m : GoMap α) (k : Bytes) : mapGet m k = lookup k (ca_absP m) := by
  cases m with
  | none => rfl
  | some l => exact ca_alGet_lookup k l

/-- `m[k] = v` on a non-nil map is the model's `store` -/
theorem ca_mapSet_store {α : Type} (l : List (Bytes × α)) (k : Bytes) (v : α) :
    mapSet (some l) k v = .ok (some (store k v l)) := by
  simp [mapSet, store, ca_alDelete_remove]

theorem ca_mapSet_nil {α : Type} (k : Bytes) (v : α) :
    mapSet (none : GoMap α) k v = .error (ascii "assignment to entry in nil map") := rfl

/-- `delete(m, k)` is the model's `remove` (a no-op on the nil map, which stays nil) -/
theorem ca_mapDelete_remove {α : Type} (m : GoMap α) (k : Bytes) :
    ca_absP (mapDelete m k) = remove k (ca_absP m) ∧ (mapIsNil (mapDelete m k) = mapIsNil m) := by
  cases m with
  | none => exact ⟨rfl, rfl⟩
  | some l => exact ⟨ca_alDelete_remove k l, rfl⟩

/-! ### the statement cache: closed forms -/

/-- the `Statement` that `Set` builds from the prepared statement -/
def ca_stmtOf (ps : PreparedStatementV) : StatementV :=
  { fn := ps.fn, parameters := ps.parameters, columns := ps.columns }

def ca_scW (w : CW) (heap : List StatementV) (m : GoMap (Option Nat)) : CW :=
  { w with stmtHeap := heap, sc := { statements := m, mu := .free } }

theorem ca_scW_self (w : CW) (h : w.sc.mu = .free) : ca_scW w w.stmtHeap w.sc.statements = w := by
  obtain ⟨sh, ph, ⟨st, mu⟩, pc, orc, calls⟩ := w
  simp at h; subst h; rfl

def ca_nilDeref : Bytes := ascii "runtime error: invalid memory address or nil pointer dereference"

/-- `Set` with the lock free: the statement is a NEW object at the end of the heap, the name is bound to its
    address by the model's `store` (on the nil map after allocating it), the lock is free again, no error, no panic -/
theorem tie_ca_StatementCache_Set (name : Bytes) (ps : PreparedStatementV) (w : CW) (h : w.sc.mu = .free) :
    DefaultStatementCache_Set name (some ps) w =
      .ok none (ca_scW w (w.stmtHeap ++ [ca_stmtOf ps])
        (some (store name (some w.stmtHeap.length) (ca_absP w.sc.statements)))) := by
  cases hst : w.sc.statements <;>
    simp [DefaultStatementCache_Set, h, hst, lockStep, rwLock, rwUnlock, deferRun, mapIsNil, mapMake, chk, caDeref,
      allocStmt, ca_mapSet_store, ca_scW, ca_stmtOf, ca_absP]

/-- `Set` with a nil `*PreparedStatement`: the nil dereference panics; the deferred `Unlock` has run (and the
    nil map has been replaced by an empty one before) -/
theorem tie_ca_StatementCache_Set_nil (name : Bytes) (w : CW) (h : w.sc.mu = .free) :
    DefaultStatementCache_Set name none w =
      .panic ca_nilDeref (ca_scW w w.stmtHeap (some (ca_absP w.sc.statements))) := by
  cases hst : w.sc.statements <;>
    simp [DefaultStatementCache_Set, h, hst, lockStep, rwLock, rwUnlock, deferRun, mapIsNil, mapMake, chk, caDeref,
      ca_scW, ca_absP, ca_nilDeref]

theorem ca_rlock_runlock (mu : RWMutex) (h : mu ≠ .wlocked) : ∃ m, rwRLock mu = .ok m ∧ rwRUnlock m = .ok mu := by
  cases mu with
  | free => exact ⟨_, rfl, rfl⟩
  | wlocked => exact absurd rfl h
  | rlocked n => exact ⟨_, rfl, rfl⟩

/-- `Get` whenever no writer holds the lock: the model's `lookup` (an unknown name and the nil map give nil);
    nothing changes, the count of the other readers included -/
theorem tie_ca_StatementCache_Get_unlocked (name : Bytes) (w : CW) (h : w.sc.mu ≠ .wlocked) :
    DefaultStatementCache_Get name w = .ok ((lookup name (ca_absP w.sc.statements)).getD none, none) w := by
  obtain ⟨sh, ph, ⟨st, mu⟩, pc, orc, calls⟩ := w
  obtain ⟨m, h1, h2⟩ := ca_rlock_runlock mu h
  cases st with
  | none => simp [DefaultStatementCache_Get, lockStep, deferRun, mapIsNil, ca_absP, lookup, h1, h2]
  | some l =>
    simp only [DefaultStatementCache_Get, lockStep, deferRun, mapIsNil, ca_mapGet_lookup, ca_absP,
      Option.isNone, Option.getD, h1]
    cases hl : lookup name l <;> simp [h2]

theorem tie_ca_StatementCache_Get (name : Bytes) (w : CW) (h : w.sc.mu = .free) :
    DefaultStatementCache_Get name w = .ok ((lookup name (ca_absP w.sc.statements)).getD none, none) w :=
  tie_ca_StatementCache_Get_unlocked name w (by simp [h])

/-- `Get` while other goroutines hold read locks: the same result, their read locks are still counted -/
theorem tie_ca_StatementCache_Get_shared (name : Bytes) (w : CW) (n : Nat) (h : w.sc.mu = .rlocked n) :
    DefaultStatementCache_Get name w = .ok ((lookup name (ca_absP w.sc.statements)).getD none, none) w :=
  tie_ca_StatementCache_Get_unlocked name w (by simp [h])

/-- `Close` with the lock free: the model's `remove`; on the nil map nothing happens (no panic) -/
theorem tie_ca_StatementCache_Close (name : Bytes) (w : CW) (h : w.sc.mu = .free) :
    DefaultStatementCache_Close name w = .ok none (ca_scW w w.stmtHeap (mapDelete w.sc.statements name)) := by
  simp [DefaultStatementCache_Close, h, lockStep, rwLock, rwUnlock, deferRun, ca_scW]

/-- a method that takes the write lock never returns when the lock is held (one goroutine: nobody releases it) -/
theorem tie_ca_StatementCache_held (name : Bytes) (ps : Option PreparedStatementV) (w : CW) (h : w.sc.mu ≠ .free) :
    DefaultStatementCache_Set name ps w = .deadlock w ∧ DefaultStatementCache_Close name w = .deadlock w := by
  obtain ⟨sh, ph, ⟨st, mu⟩, pc, orc, calls⟩ := w
  cases mu <;> simp at h <;> simp [DefaultStatementCache_Set, DefaultStatementCache_Close, lockStep, rwLock]

theorem tie_ca_StatementCache_Get_held (name : Bytes) (w : CW) (h : w.sc.mu = .wlocked) :
    DefaultStatementCache_Get name w = .deadlock w := by
  simp [DefaultStatementCache_Get, h, lockStep, rwRLock]

/-! ### the statement cache: what the model's handlers rely on -/

def ca_stmts (w : CW) : List (Bytes × Option Nat) := ca_absP w.sc.statements

/-- Parse: `Set` is the model's `store` on the abstraction -/
theorem tie_ca_Set_refines_store (name : Bytes) (ps : PreparedStatementV) (w : CW) (h : w.sc.mu = .free) :
    ∃ w', DefaultStatementCache_Set name (some ps) w = .ok none w' ∧
      ca_stmts w' = store name (some w.stmtHeap.length) (ca_stmts w) ∧
      w'.stmtHeap = w.stmtHeap ++ [ca_stmtOf ps] ∧ w'.sc.mu = .free ∧
      w'.pc = w.pc ∧ w'.portalHeap = w.portalHeap ∧ w'.calls = w.calls :=
  ⟨_, tie_ca_StatementCache_Set name ps w h, rfl, rfl, rfl, rfl, rfl, rfl⟩

/-- Close 'S': `Close` is the model's `remove` on the abstraction -/
theorem tie_ca_Close_refines_remove (name : Bytes) (w : CW) (h : w.sc.mu = .free) :
    ∃ w', DefaultStatementCache_Close name w = .ok none w' ∧
      ca_stmts w' = remove name (ca_stmts w) ∧ w'.stmtHeap = w.stmtHeap ∧ w'.sc.mu = .free ∧
      w'.pc = w.pc ∧ w'.portalHeap = w.portalHeap :=
  ⟨_, tie_ca_StatementCache_Close name w h, (ca_mapDelete_remove _ _).1, rfl, rfl, rfl, rfl⟩

/-- Bind / Describe 'S': `Get` is the model's `lookup` on the abstraction; nil = unknown -/
theorem tie_ca_Get_refines_lookup (name : Bytes) (w : CW) (h : w.sc.mu = .free) :
    DefaultStatementCache_Get name w = .ok ((lookup name (ca_stmts w)).getD none, none) w :=
  tie_ca_StatementCache_Get name w h

/-- `Get` on a cache that was never written (zero value: nil map): nil, no error, no panic -/
theorem tie_ca_Get_fresh_cache (name : Bytes) (w : CW) (h : w.sc = {}) :
    DefaultStatementCache_Get name w = .ok (none, none) w := by
  have hm : w.sc.mu = .free := by rw [h]
  rw [tie_ca_StatementCache_Get name w hm, h]; rfl

theorem tie_ca_Set_Get_same (name : Bytes) (ps : PreparedStatementV) (w : CW) (h : w.sc.mu = .free) :
    ∃ w', DefaultStatementCache_Set name (some ps) w = .ok none w' ∧
      DefaultStatementCache_Get name w' = .ok (some w.stmtHeap.length, none) w' ∧
      heapGet w'.stmtHeap (some w.stmtHeap.length) = .ok (ca_stmtOf ps) := by
  refine ⟨_, tie_ca_StatementCache_Set name ps w h, ?_, ?_⟩
  · rw [tie_ca_StatementCache_Get _ _ rfl]
    simp [ca_scW, ca_absP, lookup_store]
  · simp [heapGet, ca_scW]

theorem tie_ca_Set_Get_other (name other : Bytes) (ps : PreparedStatementV) (w : CW) (h : w.sc.mu = .free)
    (hne : other ≠ name) :
    ∃ w' r, DefaultStatementCache_Set name (some ps) w = .ok none w' ∧
      DefaultStatementCache_Get other w = .ok (r, none) w ∧
      DefaultStatementCache_Get other w' = .ok (r, none) w' := by
  refine ⟨_, _, tie_ca_StatementCache_Set name ps w h, tie_ca_StatementCache_Get other w h, ?_⟩
  rw [tie_ca_StatementCache_Get _ _ rfl]
  simp [ca_scW, ca_absP, lookup_store, hne]

def ca_WFs (w : CW) : Prop := ∀ k a, (k, some a) ∈ ca_stmts w → a < w.stmtHeap.length

/-- `Set` on an existing name REPLACES: the name gets a fresh object (an address no name had, the old object
    is untouched and still what holders of the old address see) -/
theorem tie_ca_Set_fresh (name : Bytes) (ps : PreparedStatementV) (w : CW) (h : w.sc.mu = .free) (hwf : ca_WFs w) :
    ∃ w', DefaultStatementCache_Set name (some ps) w = .ok none w' ∧
      (∀ k, (k, some w.stmtHeap.length) ∉ ca_stmts w) ∧
      (∀ a, a < w.stmtHeap.length → heapGet w'.stmtHeap (some a) = heapGet w.stmtHeap (some a)) ∧
      ca_WFs w' := by
  refine ⟨_, tie_ca_StatementCache_Set name ps w h, ?_, ?_, ?_⟩
  · intro k hk
    exact Nat.lt_irrefl _ (hwf k _ hk)
  · intro a ha
    simp [heapGet, ca_scW, List.getElem?_append_left ha]
  · intro k a hk
    show a < (w.stmtHeap ++ [ca_stmtOf ps]).length
    rw [List.length_append]
    rcases (mem_store _ _ _ _).mp hk with h | ⟨h, _⟩
    · cases h; simp
    · exact Nat.lt_add_right _ (hwf k a h)

theorem tie_ca_Close_Get (name other : Bytes) (w : CW) (h : w.sc.mu = .free) :
    ∃ w', DefaultStatementCache_Close name w = .ok none w' ∧
      DefaultStatementCache_Get name w' = .ok (none, none) w' ∧
      (other ≠ name → ∃ r, DefaultStatementCache_Get other w = .ok (r, none) w ∧
        DefaultStatementCache_Get other w' = .ok (r, none) w') := by
  refine ⟨_, tie_ca_StatementCache_Close name w h, ?_, ?_⟩
  · rw [tie_ca_StatementCache_Get _ _ rfl]
    simp [ca_scW, (ca_mapDelete_remove _ _).1, lookup_remove]
  · intro hne
    refine ⟨_, tie_ca_StatementCache_Get other w h, ?_⟩
    rw [tie_ca_StatementCache_Get _ _ rfl]
    simp [ca_scW, (ca_mapDelete_remove _ _).1, lookup_remove, hne]

/-! ### the portal cache: closed forms -/

def ca_pcW (w : CW) (heap : List PortalV) (m : GoMap (Option Nat)) : CW :=
  { w with portalHeap := heap, pc := { portals := m, mu := .free } }

def ca_portals (w : CW) : List (Bytes × Option Nat) := ca_absP w.pc.portals

/-- `Bind` with the lock free: a NEW portal object holding the statement address, the parameters and the formats
    handed in; the name is bound to it by the model's `store`; no error, no panic (the statement is not dereferenced) -/
theorem tie_ca_PortalCache_Bind (name : Bytes) (stmt : Option Nat) (params : List Bytes) (formats : List Nat) (w : CW)
    (h : w.pc.mu = .free) :
    DefaultPortalCache_Bind name stmt params formats w =
      .ok none (ca_pcW w (w.portalHeap ++ [{ statement := stmt, parameters := params, formats := formats }])
        (some (store name (some w.portalHeap.length) (ca_portals w)))) := by
  cases hpo : w.pc.portals <;>
    simp [DefaultPortalCache_Bind, h, hpo, lockStep, rwLock, rwUnlock, deferRun, mapIsNil, mapMake, chk, allocPortal,
      ca_mapSet_store, ca_pcW, ca_absP, ca_portals]

/-- `Get` with the lock free: the model's `lookup`; nothing changes (the write lock it takes is released) -/
theorem tie_ca_PortalCache_Get (name : Bytes) (w : CW) (h : w.pc.mu = .free) :
    DefaultPortalCache_Get name w = .ok ((lookup name (ca_portals w)).getD none, none) w := by
  obtain ⟨sh, ph, sc, ⟨po, mu⟩, orc, calls⟩ := w
  simp at h; subst h
  cases po with
  | none => simp [DefaultPortalCache_Get, lockStep, rwLock, rwUnlock, deferRun, mapIsNil, ca_absP, ca_portals, lookup]
  | some l =>
    simp only [DefaultPortalCache_Get, lockStep, rwLock, rwUnlock, deferRun, mapIsNil, ca_mapGet_lookup, ca_absP,
      ca_portals, Option.isNone, Option.getD]
    cases hl : lookup name l <;> simp

theorem tie_ca_PortalCache_Close (name : Bytes) (w : CW) (h : w.pc.mu = .free) :
    DefaultPortalCache_Close name w = .ok none (ca_pcW w w.portalHeap (mapDelete w.pc.portals name)) := by
  simp [DefaultPortalCache_Close, h, lockStep, rwLock, rwUnlock, deferRun, ca_pcW]

/-- every method of the portal cache takes the write lock: on a held lock it never returns -/
theorem tie_ca_PortalCache_held (name : Bytes) (stmt : Option Nat) (params : List Bytes) (formats : List Nat) (w : CW)
    (h : w.pc.mu ≠ .free) :
    DefaultPortalCache_Bind name stmt params formats w = .deadlock w ∧ DefaultPortalCache_Get name w = .deadlock w ∧
    DefaultPortalCache_Close name w = .deadlock w ∧ DefaultPortalCache_Execute name w = .deadlock w := by
  obtain ⟨sh, ph, sc, ⟨po, mu⟩, orc, calls⟩ := w
  cases mu <;> simp at h <;>
    simp [DefaultPortalCache_Bind, DefaultPortalCache_Get, DefaultPortalCache_Close, DefaultPortalCache_Execute,
      lockStep, rwLock, recoverRun]

/-- Bind: `Bind` is the model's `store` on the abstraction -/
theorem tie_ca_Bind_refines_store (name : Bytes) (stmt : Option Nat) (params : List Bytes) (formats : List Nat) (w : CW)
    (h : w.pc.mu = .free) :
    ∃ w', DefaultPortalCache_Bind name stmt params formats w = .ok none w' ∧
      ca_portals w' = store name (some w.portalHeap.length) (ca_portals w) ∧
      w'.portalHeap = w.portalHeap ++ [{ statement := stmt, parameters := params, formats := formats }] ∧
      w'.pc.mu = .free ∧ w'.sc = w.sc ∧ w'.stmtHeap = w.stmtHeap ∧ w'.calls = w.calls :=
  ⟨_, tie_ca_PortalCache_Bind name stmt params formats w h, rfl, rfl, rfl, rfl, rfl, rfl⟩

/-- Close 'P': `Close` is the model's `remove` on the abstraction -/
theorem tie_ca_PortalClose_refines_remove (name : Bytes) (w : CW) (h : w.pc.mu = .free) :
    ∃ w', DefaultPortalCache_Close name w = .ok none w' ∧
      ca_portals w' = remove name (ca_portals w) ∧ w'.portalHeap = w.portalHeap ∧ w'.pc.mu = .free ∧
      w'.sc = w.sc ∧ w'.stmtHeap = w.stmtHeap :=
  ⟨_, tie_ca_PortalCache_Close name w h, (ca_mapDelete_remove _ _).1, rfl, rfl, rfl, rfl⟩

theorem tie_ca_PortalGet_fresh_cache (name : Bytes) (w : CW) (h : w.pc = {}) :
    DefaultPortalCache_Get name w = .ok (none, none) w := by
  have hm : w.pc.mu = .free := by rw [h]
  rw [tie_ca_PortalCache_Get name w hm, ca_portals, h]; rfl

theorem tie_ca_PortalClose_Get (name : Bytes) (w : CW) (h : w.pc.mu = .free) :
    ∃ w', DefaultPortalCache_Close name w = .ok none w' ∧ DefaultPortalCache_Get name w' = .ok (none, none) w' := by
  refine ⟨_, tie_ca_PortalCache_Close name w h, ?_⟩
  rw [tie_ca_PortalCache_Get _ _ rfl]
  simp [ca_pcW, ca_portals, (ca_mapDelete_remove _ _).1, lookup_remove]

/-- what a portal name stands for, as the model's `Portal` does: the statement VALUE, parameters, formats
    (`none`: unknown name, nil or dangling portal or statement) -/
def ca_portalView (w : CW) (name : Bytes) : Option (StatementV × List Bytes × List Nat) :=
  match lookup name (ca_portals w) with
  | some (some a) =>
    match w.portalHeap[a]? with
    | some p =>
      match p.statement with
      | some b =>
        match w.stmtHeap[b]? with
        | some st => some (st, p.parameters, p.formats)
        | none => none
      | none => none
    | none => none
  | _ => none

theorem ca_portalView_some (w : CW) (name : Bytes) (v : StatementV × List Bytes × List Nat) :
    ca_portalView w name = some v ↔
      ∃ a p b st, lookup name (ca_portals w) = some (some a) ∧ w.portalHeap[a]? = some p ∧ p.statement = some b ∧
        w.stmtHeap[b]? = some st ∧ v = (st, p.parameters, p.formats) := by
  unfold ca_portalView
  constructor
  · intro hv
    split at hv
    · split at hv
      · split at hv
        · split at hv
          · cases hv; exact ⟨_, _, _, _, ‹_›, ‹_›, ‹_›, ‹_›, rfl⟩
          · cases hv
        · cases hv
      · cases hv
    · cases hv
  · rintro ⟨a, p, b, st, hl, hp, hb, hst, rfl⟩
    simp [hl, hp, hb, hst]

/-- `Bind` snapshots: the name stands for the statement OBJECT handed in (the one `Get` returned), the parameters
    and the formats of this Bind -/
theorem tie_ca_Bind_snapshot (name : Bytes) (b : Nat) (st : StatementV) (params : List Bytes) (formats : List Nat) (w : CW)
    (h : w.pc.mu = .free) (hb : w.stmtHeap[b]? = some st) :
    ∃ w', DefaultPortalCache_Bind name (some b) params formats w = .ok none w' ∧
      ca_portalView w' name = some (st, params, formats) := by
  refine ⟨_, tie_ca_PortalCache_Bind name (some b) params formats w h, ?_⟩
  simp [ca_portalView, ca_pcW, ca_portals, ca_absP, lookup_store, hb]

/-- a later `Set` (Parse) of ANY statement name — the one the portal was bound from included — changes no portal -/
theorem tie_ca_Set_keeps_portals (sname : Bytes) (ps : PreparedStatementV) (w : CW) (h : w.sc.mu = .free)
    (pname : Bytes) (v : StatementV × List Bytes × List Nat) (hv : ca_portalView w pname = some v) :
    ∃ w', DefaultStatementCache_Set sname (some ps) w = .ok none w' ∧ ca_portalView w' pname = some v := by
  refine ⟨_, tie_ca_StatementCache_Set sname ps w h, ?_⟩
  obtain ⟨a, p, b, st, hl, hp, hb, hst, rfl⟩ := (ca_portalView_some w pname v).1 hv
  -- the statement object sits below the end of the heap, where the new one goes
  obtain ⟨hlt, _⟩ := List.getElem?_eq_some_iff.mp hst
  exact (ca_portalView_some _ pname _).2
    ⟨a, p, b, st, hl, hp, hb, (List.getElem?_append_left hlt).trans hst, rfl⟩

theorem tie_ca_StmtClose_keeps_portals (sname : Bytes) (w : CW) (h : w.sc.mu = .free) (pname : Bytes) :
    ∃ w', DefaultStatementCache_Close sname w = .ok none w' ∧ ca_portalView w' pname = ca_portalView w pname :=
  ⟨_, tie_ca_StatementCache_Close sname w h, rfl⟩

/-! ### Execute -/

theorem ca_panicFmt (msg : Bytes) : fmtErrorf1 "unexpected panic: %s" msg = .base (ascii "unexpected panic: " ++ msg) := by
  unfold fmtErrorf1
  rw [ascii_ofList, ascii_ofList]
  simp [substS]

/-- the deferred `recover` of `Execute`: a panic becomes the model's `unexpected panic: …` error -/
theorem ca_recoverRun (body : COut (Option CaErr)) :
    recoverRun "unexpected panic: %s" body =
      match body with
      | .panic msg w => .ok (some (.base (ascii "unexpected panic: " ++ msg))) w
      | o => o := by
  cases body <;> simp [recoverRun, ca_panicFmt]

def ca_called (w : CW) (st : StatementV) (params : List Bytes) (formats : List Nat) : CW :=
  { w with calls := (st.fn, { columns := st.columns, formats := formats }, params) :: w.calls }

/-- `Execute` with the lock free, on every path: a nil or dangling portal or statement address panics and is
    recovered into an error like a panic of the statement function.  The lock is released and nothing but `calls`
    changes. -/
theorem tie_ca_Execute (name : Bytes) (w : CW) (h : w.pc.mu = .free) :
    DefaultPortalCache_Execute name w =
      match lookup name (ca_portals w) with
      | none => .ok (some (errUnknownPortal name)) w
      | some ptr =>
        match heapGet w.portalHeap ptr with
        | .error m => .ok (some (.base (ascii "unexpected panic: " ++ m))) w
        | .ok p =>
          match heapGet w.stmtHeap p.statement with
          | .error m => .ok (some (.base (ascii "unexpected panic: " ++ m))) w
          | .ok st =>
            match w.fnOracle st.fn { columns := st.columns, formats := p.formats } p.parameters with
            | .ret e => .ok e (ca_called w st p.parameters p.formats)
            | .panics msg => .ok (some (.base (ascii "unexpected panic: " ++ msg))) (ca_called w st p.parameters p.formats) := by
  obtain ⟨sh, ph, sc, ⟨po, mu⟩, orc, calls⟩ := w
  simp at h; subst h
  simp only [DefaultPortalCache_Execute, ca_recoverRun, lockStep, rwLock, chk, cbind, extCallFn, ca_mapGet_lookup, ca_portals]
  cases lookup name (ca_absP po) with
  | none => rfl
  | some ptr =>
    simp only [Option.getD, Option.isSome, Bool.not_true, Bool.false_eq_true, if_false]
    cases heapGet ph ptr with
    | error m => rfl
    | ok p =>
      simp only
      cases heapGet sh p.statement with
      | error m => rfl
      | ok st =>
        simp only
        cases orc st.fn { columns := st.columns, formats := p.formats } p.parameters with
        | ret e => rfl
        | panics msg => rfl

/-- Execute of an unknown name (also: on the nil map): the model's `errUnknownPortal`, nothing is called,
    the lock is released -/
theorem tie_ca_Execute_unknown (name : Bytes) (w : CW) (h : w.pc.mu = .free) (hl : lookup name (ca_portals w) = none) :
    DefaultPortalCache_Execute name w = .ok (some (errUnknownPortal name)) w := by
  rw [tie_ca_Execute name w h, hl]

/-- Execute of a bound name: the statement function of the portal's statement object is called with that object's
    columns, this portal's formats and parameters (the model's `runProg (p.stmt.body p.params) {cols, formats}`);
    its error is returned, its panic becomes the model's `unexpected panic: …` error; the lock is released in
    both cases -/
theorem tie_ca_Execute_known (name : Bytes) (w : CW) (h : w.pc.mu = .free) (st : StatementV) (params : List Bytes)
    (formats : List Nat) (hv : ca_portalView w name = some (st, params, formats)) :
    DefaultPortalCache_Execute name w =
      match w.fnOracle st.fn { columns := st.columns, formats := formats } params with
      | .ret e => .ok e (ca_called w st params formats)
      | .panics msg => .ok (some (.base (ascii "unexpected panic: " ++ msg))) (ca_called w st params formats) := by
  obtain ⟨a, p, b, st', hl, hp, hb, hst, hv⟩ := (ca_portalView_some _ name _).1 hv
  cases hv
  rw [tie_ca_Execute name w h, hl]
  simp only [heapGet, hp, hb, hst]

/-- Execute of a portal bound to a nil statement: the nil dereference is recovered into an error, the lock is
    released, nothing is called -/
theorem tie_ca_Execute_nil_statement (name : Bytes) (w : CW) (h : w.pc.mu = .free) (a : Nat) (p : PortalV)
    (hl : lookup name (ca_portals w) = some (some a)) (hp : w.portalHeap[a]? = some p) (hs : p.statement = none) :
    DefaultPortalCache_Execute name w = .ok (some (.base (ascii "unexpected panic: " ++ ca_nilDeref))) w := by
  rw [tie_ca_Execute name w h, hl]
  simp only [heapGet, hp, hs]
  rfl

/-- Execute with the lock free ALWAYS returns (never panics: whatever the statement function, the map and the
    heaps are), with the lock released; nothing but the record of calls has changed -/
theorem tie_ca_Execute_total (name : Bytes) (w : CW) (h : w.pc.mu = .free) :
    ∃ e cs, DefaultPortalCache_Execute name w = .ok e { w with calls := cs } := by
  rw [tie_ca_Execute name w h]
  cases lookup name (ca_portals w) with
  | none => exact ⟨_, _, rfl⟩
  | some ptr =>
    dsimp only
    cases heapGet w.portalHeap ptr with
    | error m => exact ⟨_, _, rfl⟩
    | ok p =>
      dsimp only
      cases heapGet w.stmtHeap p.statement with
      | error m => exact ⟨_, _, rfl⟩
      | ok st =>
        dsimp only
        cases w.fnOracle st.fn { columns := st.columns, formats := p.formats } p.parameters with
        | ret e => exact ⟨_, _, rfl⟩
        | panics msg => exact ⟨_, _, rfl⟩

def ca_released {α : Type} (o : COut α) : Prop :=
  match o with
  | .ok _ w => w.sc.mu = .free ∧ w.pc.mu = .free
  | .panic _ w => w.sc.mu = .free ∧ w.pc.mu = .free
  | _ => False

/-- started with the locks free, EVERY method of both caches returns with the locks free — on every path: the
    early returns of `Get`, the unknown-portal return of `Execute`, the panicking `Set(nil)`, a panicking
    statement function -/
theorem tie_cache_locks_released (name : Bytes) (ps : Option PreparedStatementV) (stmt : Option Nat)
    (params : List Bytes) (formats : List Nat) (w : CW) (hs : w.sc.mu = .free) (hp : w.pc.mu = .free) :
    ca_released (DefaultStatementCache_Set name ps w) ∧ ca_released (DefaultStatementCache_Get name w) ∧
    ca_released (DefaultStatementCache_Close name w) ∧ ca_released (DefaultPortalCache_Bind name stmt params formats w) ∧
    ca_released (DefaultPortalCache_Get name w) ∧ ca_released (DefaultPortalCache_Close name w) ∧
    ca_released (DefaultPortalCache_Execute name w) := by
  refine ⟨?_, ?_, ?_, ?_, ?_, ?_, ?_⟩
  · cases ps with
    | none => rw [tie_ca_StatementCache_Set_nil name w hs]; exact ⟨rfl, hp⟩
    | some ps => rw [tie_ca_StatementCache_Set name ps w hs]; exact ⟨rfl, hp⟩
  · rw [tie_ca_StatementCache_Get name w hs]; exact ⟨hs, hp⟩
  · rw [tie_ca_StatementCache_Close name w hs]; exact ⟨rfl, hp⟩
  · rw [tie_ca_PortalCache_Bind name stmt params formats w hp]; exact ⟨hs, rfl⟩
  · rw [tie_ca_PortalCache_Get name w hp]; exact ⟨hs, hp⟩
  · rw [tie_ca_PortalCache_Close name w hp]; exact ⟨hs, rfl⟩
  · obtain ⟨e, cs, he⟩ := tie_ca_Execute_total name w hp
    rw [he]; exact ⟨hs, hp⟩

/-- the only panic that leaves any of the seven methods is `Set` with a nil `*PreparedStatement` (command.go never
    passes nil); in particular no write ever hits a nil map -/
theorem tie_cache_no_panic (name : Bytes) (ps : PreparedStatementV) (stmt : Option Nat)
    (params : List Bytes) (formats : List Nat) (w : CW) (hs : w.sc.mu = .free) (hp : w.pc.mu = .free) :
    (∃ w', DefaultStatementCache_Set name (some ps) w = .ok none w') ∧
    (∃ r, DefaultStatementCache_Get name w = .ok (r, none) w) ∧
    (∃ w', DefaultStatementCache_Close name w = .ok none w') ∧
    (∃ w', DefaultPortalCache_Bind name stmt params formats w = .ok none w') ∧
    (∃ r, DefaultPortalCache_Get name w = .ok (r, none) w) ∧
    (∃ w', DefaultPortalCache_Close name w = .ok none w') ∧
    (∃ e w', DefaultPortalCache_Execute name w = .ok e w') :=
  ⟨⟨_, tie_ca_StatementCache_Set name ps w hs⟩, ⟨_, tie_ca_StatementCache_Get name w hs⟩, ⟨_, tie_ca_StatementCache_Close name w hs⟩,
   ⟨_, tie_ca_PortalCache_Bind name stmt params formats w hp⟩, ⟨_, tie_ca_PortalCache_Get name w hp⟩,
   ⟨_, tie_ca_PortalCache_Close name w hp⟩, (tie_ca_Execute_total name w hp).imp fun _ ⟨_, he⟩ => ⟨_, he⟩⟩

/-! ### the refinement with the model's value types -/

def ca_vals {α β : Type} (f : α → β) (m : List (Bytes × α)) : List (Bytes × β) := m.map fun kv => (kv.1, f kv.2)

theorem ca_lookup_vals {α β : Type} (f : α → β) (n : Bytes) (m : List (Bytes × α)) :
    lookup n (ca_vals f m) = (lookup n m).map f := by
  induction m with
  | nil => rfl
  | cons kv m ih =>
    obtain ⟨k, v⟩ := kv
    by_cases hk : k = n <;> simp_all [ca_vals, lookup]

theorem ca_remove_vals {α β : Type} (f : α → β) (n : Bytes) (m : List (Bytes × α)) :
    remove n (ca_vals f m) = ca_vals f (remove n m) := by
  simp [remove, ca_vals, List.filter_map, Function.comp_def]

theorem ca_store_vals {α β : Type} (f : α → β) (n : Bytes) (v : α) (m : List (Bytes × α)) :
    store n (f v) (ca_vals f m) = ca_vals f (store n v m) := by
  simp only [store, ca_remove_vals]; rfl

/-- the object behind an address (`default` for nil / dangling: ruled out by `ca_WFs'`) -/
def ca_deref (h : List StatementV) (p : Option Nat) : StatementV := ((p.bind (h[·]?)).getD {})

/-- the model's `Sess.stmts` for a world: the statement VALUES under their names, seen through an interpretation
    `interp` of a cached statement as a model `Stmt` (what the function identity denotes) -/
def ca_modelStmts (interp : StatementV → Stmt) (w : CW) : List (Bytes × Stmt) :=
  ca_vals (fun p => interp (ca_deref w.stmtHeap p)) (ca_stmts w)

def ca_WFs' (w : CW) : Prop := ∀ k p, (k, p) ∈ ca_stmts w → ∃ a, p = some a ∧ a < w.stmtHeap.length

/-- `Set` against `Sess.stmts` (handleParse: `stmts := store name st s.stmts`) -/
theorem tie_ca_Set_refines_model (interp : StatementV → Stmt) (name : Bytes) (ps : PreparedStatementV) (w : CW)
    (h : w.sc.mu = .free) (hwf : ca_WFs' w) :
    ∃ w', DefaultStatementCache_Set name (some ps) w = .ok none w' ∧
      ca_modelStmts interp w' = store name (interp (ca_stmtOf ps)) (ca_modelStmts interp w) ∧ ca_WFs' w' := by
  refine ⟨_, tie_ca_StatementCache_Set name ps w h, ?_, ?_⟩
  · -- the objects the old names point to are where they were: the heap only grew
    have hold : ca_vals (fun p => interp (ca_deref (w.stmtHeap ++ [ca_stmtOf ps]) p)) (ca_stmts w) =
        ca_modelStmts interp w :=
      List.map_congr_left fun (k, p) hkp => by
        obtain ⟨a, rfl, ha⟩ := hwf k p hkp
        simp [ca_deref, List.getElem?_append_left ha]
    show ca_vals (fun p => interp (ca_deref (w.stmtHeap ++ [ca_stmtOf ps]) p))
        (store name (some w.stmtHeap.length) (ca_stmts w)) = _
    rw [← ca_store_vals, hold]
    simp [ca_deref]
  · intro k p hk
    show ∃ a, p = some a ∧ a < (w.stmtHeap ++ [ca_stmtOf ps]).length
    rw [List.length_append]
    rcases (mem_store _ _ _ _).mp hk with h | ⟨h, _⟩
    · cases h; exact ⟨_, rfl, by simp⟩
    · obtain ⟨a, ha, hlt⟩ := hwf k p h
      exact ⟨a, ha, Nat.lt_add_right _ hlt⟩

/-- `Close` against `Sess.stmts` (handleClose: `stmts := remove name s.stmts`) -/
theorem tie_ca_Close_refines_model (interp : StatementV → Stmt) (name : Bytes) (w : CW) (h : w.sc.mu = .free) :
    ∃ w', DefaultStatementCache_Close name w = .ok none w' ∧
      ca_modelStmts interp w' = remove name (ca_modelStmts interp w) := by
  refine ⟨_, tie_ca_StatementCache_Close name w h, ?_⟩
  simp only [ca_modelStmts, ca_stmts, ca_scW, (ca_mapDelete_remove _ _).1, ca_remove_vals]

/-- `Get` against `Sess.stmts` (handleBind / handleDescribe: `lookup sname s.stmts`): it returns nil exactly when
    the model's lookup fails, and otherwise an address whose object is what the model's lookup yields -/
theorem tie_ca_Get_refines_model (interp : StatementV → Stmt) (name : Bytes) (w : CW) (h : w.sc.mu = .free)
    (hwf : ca_WFs' w) :
    ∃ r, DefaultStatementCache_Get name w = .ok (r, none) w ∧
      lookup name (ca_modelStmts interp w) = r.map fun a => interp (ca_deref w.stmtHeap (some a)) := by
  refine ⟨_, tie_ca_Get_refines_lookup name w h, ?_⟩
  rw [ca_modelStmts, ca_lookup_vals]
  cases hl : lookup name (ca_stmts w) with
  | none => rfl
  | some p =>
    obtain ⟨a, rfl, _⟩ := hwf name p (lookup_mem hl)
    rfl

def ca_w1 : CW := (DefaultStatementCache_Set [97] (some { fn := 1 }) {}).world
def ca_w2 : CW := (DefaultStatementCache_Set [98] (some { fn := 2 }) ca_w1).world
def ca_w3 : CW := (DefaultPortalCache_Bind [112] (some 0) [[1]] [1] ca_w2).world
def ca_w4 : CW := (DefaultStatementCache_Set [97] (some { fn := 3 }) ca_w3).world
def ca_w5 : CW := (DefaultStatementCache_Close [98] ca_w4).world

/-- define a, b; bind portal p to a's object; redefine a; close b -/
example : ca_w5.sc.statements = some [([97], some 2)] ∧ ca_w5.stmtHeap.map (·.fn) = [1, 2, 3] ∧
    ca_w5.sc.mu = .free ∧ ca_w5.pc.mu = .free ∧ ca_w5.pc.portals = some [([112], some 0)] ∧
    ca_portalView ca_w5 [112] = some ({ fn := 1 }, [[1]], [1]) := by decide +kernel

/-- what an example can compare: the result and the two locks of a call that returned -/
def ca_obs {α : Type} (o : COut α) : Option (α × RWMutex × RWMutex) :=
  match o with
  | .ok r w => some (r, w.sc.mu, w.pc.mu)
  | _ => none

/-- Execute of p runs the OLD function 1 although a now names function 3; a panic of it becomes an error -/
example : (DefaultPortalCache_Execute [112] { ca_w5 with fnOracle := fun _ _ _ => .panics (ascii "boom") }).world.calls
      = [(1, { columns := [], formats := [1] }, [[1]])] ∧
    ca_obs (DefaultPortalCache_Execute [112] { ca_w5 with fnOracle := fun _ _ _ => .panics (ascii "boom") })
      = some (some (.base (ascii "unexpected panic: boom")), .free, .free) := by
  unfold DefaultPortalCache_Execute
  rw [ca_recoverRun, ascii_ofList, ascii_ofList, ascii_ofList]
  decide +kernel

/-- a never-initialised cache: Get and Close work on the nil map, Execute reports the unknown portal -/
example : ca_obs (DefaultStatementCache_Get [97] {}) = some ((none, none), .free, .free) ∧
    ca_obs (DefaultStatementCache_Close [97] {}) = some (none, .free, .free) ∧
    (DefaultStatementCache_Close [97] {}).world.sc.statements = none ∧
    ca_obs (DefaultPortalCache_Execute [97] {}) = some (some (errUnknownPortal [97]), .free, .free) := by
  decide +kernel

/-- a second Lock on the held mutex: deadlock -/
example : (match DefaultPortalCache_Get [97] { pc := { mu := .wlocked } } with | .deadlock _ => true | _ => false) = true := by
  decide +kernel

end Pw.Tie
