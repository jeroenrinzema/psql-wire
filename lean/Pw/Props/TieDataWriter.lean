import Pw.Generated.TransWriter
import Pw.Props.TieError
import Pw.Model.Session
import Pw.Lemmas.Bytes
/-
  The result writer of writer.go / row.go as translated (`TransWriter.dataWriter_Row`,
  `dataWriter_Complete`, `dataWriter_Empty`, `dataWriter_Written`, `Columns_Write`, `Column_Write`,
  `commandComplete`) against the model's `dwRow`, `dwComplete`, `dwEmpty` (Model/Session.lean, section
  "result writer") and `BMsg.complete … |>.encode` (Model/Backend.lean).

  The calls on the buffer writer are stepped through with the `wr_*` equations of TieError.lean, lifted to the
  `DWorld` of RtWriter.lean (`liftW_wr`); one `End` is `dw_send`, the `wsend` of TieError.lean seen from a `DWorld`.
  That `Row` counts exactly the rows that went out rests on a frame property of `Columns.Write` (`dw_Keeps`: only the
  pkg/buffer part of the world changes), proved by walking the translated code with one rule per construct.
-/
namespace Pw.Tie
open Pw.Go

theorem dw_untranslatable_nil : TransWriter.untranslatable = [] := rfl

/-- the structs behind `DataWriterS` / `ColumnS` of RtWriter.lean, field for field (`ctx`, `client`, `reader`
    are the world's context, buffer.Writer and buffer.Reader) -/
theorem dw_struct_layout :
    TransWriter.structdataWriter = [("ctx", "context.Context"), ("columns", "Columns"), ("formats", "[]FormatCode"),
      ("client", "*buffer.Writer"), ("reader", "*buffer.Reader"), ("closed", "bool"), ("written", "uint64")] ∧
    TransWriter.structColumn = [("Table", "int32"), ("ID", "int32"), ("Attr", "int16"), ("Name", "string"),
      ("AttrNo", "int16"), ("Oid", "oid.Oid"), ("Width", "int16"), ("TypeModifier", "int32")] := ⟨rfl, rfl⟩

/-- `fmt.Errorf(format, integers…)` with `%d` verbs only -/
def dw_fmtD : Bytes → List Int → Bytes
  | 37 :: 100 :: r, a :: as => decInt a ++ dw_fmtD r as
  | c :: r, as => c :: dw_fmtD r as
  | [], _ => []

/-- an error value of writer.go / row.go as the handler-visible `OpErr` of the model (an error of the
    encoder is `pgxEnc`; errors of the buffer writer are the transport's) -/
def dw_absErr : DErr → OpErr
  | .new t => .lib (.base t)
  | .errorf f as => .lib (.base (dw_fmtD f as))
  | .lib _ => .lib errWrite
  | .ext _ => .pgxEnc

theorem dw_ErrClosedWriter : TransWriter.ErrClosedWriter.map dw_absErr = some (.lib errClosedWriter) := by
  rw [errClosedWriter, ascii_ofList]
  rfl

theorem dw_ErrDataWritten : TransWriter.ErrDataWritten.map dw_absErr = some (.lib errDataWritten) := by
  rw [errDataWritten, ascii_ofList]
  rfl

/-- the model's `DW.closed` / `DW.written`, read off the Go state -/
def dw_closed (w : DWorld) : Bool := w.dw.closed
def dw_written (w : DWorld) : Nat := w.dw.written.toNat

/-- the connection as the model's session sees it: messages sent (`out`, as bytes) and the write budget -/
def dw_Conn (w : DWorld) (s : Sess) : Prop :=
  w.base.sink = s.out.map BMsg.encode ∧ w.base.wleft = s.wleft

/-- ONE `Writer.End` of the message bytes `m` started with type byte `t`: the byte-level `Sess.send` -/
def dw_send (m : Bytes) (t : UInt8) (w : DWorld) : DOut (Option DErr) :=
  match w.base.wleft with
  | some 0 => .ok (some (.lib .writeErr)) { w with base := setWriter w.base (wr [] (pbStart t w.base.writer.putbuf)) }
  | some (n + 1) => .ok none { w with base := { setWriter w.base (wr [] (pbStart t w.base.writer.putbuf)) with
                                                sink := m :: w.base.sink, wleft := some n } }
  | none => .ok none { w with base := { setWriter w.base (wr [] (pbStart t w.base.writer.putbuf)) with
                                        sink := m :: w.base.sink } }

/-- `dw_send` is the model's `Sess.send`: same message list, same budget, same verdict -/
theorem dw_send_model (m : BMsg) (t : UInt8) (w : DWorld) (s : Sess) (hc : dw_Conn w s) :
    ∃ r w', dw_send m.encode t w = .ok r w' ∧ dw_Conn w' (s.send m).1 ∧ w'.dw = w.dw ∧
      ((s.send m).2 = true ∧ r = none ∨ (s.send m).2 = false ∧ r = some (.lib .writeErr)) := by
  obtain ⟨h1, h2⟩ := hc
  unfold dw_send Sess.send dw_Conn
  rw [h2]
  cases hs : s.wleft with
  | none => exact ⟨_, _, rfl, ⟨by simp [h1], by simp [setWriter, h2, hs]⟩, rfl, Or.inl ⟨rfl, rfl⟩⟩
  | some n =>
    cases n with
    | zero => exact ⟨_, _, rfl, ⟨by simp [setWriter, h1], by simp [setWriter, h2, hs]⟩, rfl, Or.inr ⟨rfl, rfl⟩⟩
    | succ n => exact ⟨_, _, rfl, ⟨by simp [h1], by simp⟩, rfl, Or.inl ⟨rfl, rfl⟩⟩

/-! ### stepping the buffer writer inside a `DWorld` -/

def dw_setW (w : DWorld) (s : WriterS) : DWorld := { w with base := setWriter w.base s }

theorem dw_setW_setW (w : DWorld) (a b : WriterS) : dw_setW (dw_setW w a) b = dw_setW w b := rfl
theorem dw_setW_dw (w : DWorld) (a : WriterS) : (dw_setW w a).dw = w.dw := rfl

theorem dw_bind_ok {α β} (a : α) (w : DWorld) (k : α → DWorld → DOut β) : (DOut.ok a w).bind k = k a w := rfl

theorem dw_bind_eq_ok {α β} {o : DOut α} {k : α → DWorld → DOut β} {b : β} {w' : DWorld} (h : o.bind k = .ok b w') :
    ∃ a w1, o = .ok a w1 ∧ k a w1 = .ok b w' := by
  cases o with
  | ok a w1 => exact ⟨a, w1, rfl, h⟩
  | panic m => cases h
  | block => cases h
  | fuel => cases h

theorem liftW_wr {α} {f : World → Out α} {w : DWorld} {s s' : WriterS} {a : α}
    (h : f (setWriter w.base s) = .ok a (setWriter w.base s')) : liftW f (dw_setW w s) = .ok a (dw_setW w s') := by
  unfold liftW dw_setW
  rw [h]

theorem liftW_Start (t : UInt8) (w : DWorld) (hp : PutbufOK w.base.writer.putbuf) :
    liftW (Trans.Writer_Start t) w = .ok () (dw_setW w (wr [t, 0, 0, 0, 0] (pbStart t w.base.writer.putbuf))) :=
  liftW_wr (s := w.base.writer) (wr_Start t w.base hp)

theorem dw_send_eq (m : Bytes) (t : UInt8) (w : DWorld) :
    dw_send m t w = (liftW (wsend m t) w).bind fun r w' => .ok (liftErrD r) w' := by
  simp only [dw_send, liftW, wsend, connWrite, setWriter]
  cases w.base.wleft with
  | none => rfl
  | some n => cases n <;> rfl

theorem dw_step_End (t : UInt8) (body : Bytes) (w : DWorld) (hlen : body.length + 5 < 4294967296) :
    ((liftW Trans.Writer_End (dw_setW w (wr (t :: 0 :: 0 :: 0 :: 0 :: body) (pbStart t w.base.writer.putbuf)))).bind
      fun r w' => .ok (liftErrD r) w') = dw_send (frame t body) t w := by
  rw [dw_send_eq]
  unfold liftW dw_setW
  rw [wr_End t body w.base hlen]

/-! ### `Written`, `Empty`, `commandComplete`, `Complete` -/

theorem dw_tie_Written (w : DWorld) : TransWriter.dataWriter_Written w = .ok w.dw.written w := rfl

theorem dw_tie_Empty (w : DWorld) :
    TransWriter.dataWriter_Empty w =
      if w.dw.closed = true then .ok TransWriter.ErrClosedWriter w
      else if w.dw.written ≠ 0 then .ok TransWriter.ErrDataWritten w
      else .ok none { w with dw := { w.dw with closed := true } } := by
  unfold TransWriter.dataWriter_Empty TransWriter.dataWriter_close
  by_cases h1 : w.dw.closed = true
  · simp [h1]
  · by_cases h2 : w.dw.written = 0 <;> simp [h1, h2, DOut.bind]

/-- `Empty()` against the model's `dwEmpty`, for any model writer `d` that agrees on `closed` and `written`;
    nothing is sent in any case -/
theorem dw_tie_Empty_model (w : DWorld) (d : DW) (hc : d.closed = w.dw.closed) (hw : (d.written : Int) = w.dw.written) :
    ∃ r w', TransWriter.dataWriter_Empty w = .ok r w' ∧ r.map dw_absErr = (dwEmpty d).1 ∧
      (dwEmpty d).2.closed = w'.dw.closed ∧ ((dwEmpty d).2.written : Int) = w'.dw.written ∧ w'.base = w.base := by
  rw [dw_tie_Empty]
  -- the model's guards decide the code's: `hc`, `hw` carry them over
  fun_cases dwEmpty d
  case case1 h1 =>
    rw [if_pos (hc ▸ h1)]
    exact ⟨_, _, rfl, dw_ErrClosedWriter, hc, hw, rfl⟩
  case case2 h1 h2 =>
    rw [if_neg (hc ▸ h1), if_pos (by omega)]
    exact ⟨_, _, rfl, dw_ErrDataWritten, hc, hw, rfl⟩
  case case3 h1 h2 =>
    rw [if_neg (hc ▸ h1), if_neg (by omega)]
    exact ⟨_, _, rfl, rfl, rfl, hw, rfl⟩

/-- `commandComplete(writer, tag)`: ONE `Write` of the model's `(BMsg.complete tag).encode`, whatever frame
    and latch the writer held -/
theorem dw_tie_commandComplete (tag : Bytes) (w : DWorld) (hp : PutbufOK w.base.writer.putbuf)
    (hlen : tag.length + 6 < 4294967296) :
    TransWriter.commandComplete tag w = dw_send (BMsg.complete tag).encode 67 w := by
  unfold TransWriter.commandComplete
  rw [liftW_Start 67 w hp, dw_bind_ok, liftW_wr (wr_AddString ..), dw_bind_ok,
    liftW_wr (wr_AddNullTerminate ..), dw_bind_ok]
  -- `(… :)`: elaborated on its own first; with the goal as expected type `exact dw_step_End …` runs out of heartbeats
  -- in `isDefEq`
  exact (dw_step_End 67 (tag ++ [0]) w (by simp; omega) :)

theorem dw_Empty_fresh (w : DWorld) (hc : w.dw.closed = false) (h0 : w.dw.written = 0) :
    TransWriter.dataWriter_Empty w = .ok none { w with dw := { w.dw with closed := true } } := by
  rw [dw_tie_Empty]; simp [hc, h0]

theorem dw_tie_Complete_closed (tag : Bytes) (w : DWorld) (hc : w.dw.closed = true) :
    TransWriter.dataWriter_Complete tag w = .ok TransWriter.ErrClosedWriter w := by
  unfold TransWriter.dataWriter_Complete; simp [hc]

/-- `Complete(tag)` on an open writer: exactly one CommandComplete carrying the tag goes to the connection
    (`dw_send` = the model's `Sess.send (.complete tag)`), its `Write` error is returned, and the writer is
    closed either way — the model's `dwComplete`.  (With no rows and non-nil columns the code goes through
    `Empty()` first; the outcome is the same.) -/
theorem dw_tie_Complete (tag : Bytes) (w : DWorld) (hc : w.dw.closed = false) (hp : PutbufOK w.base.writer.putbuf)
    (hlen : tag.length + 6 < 4294967296) :
    TransWriter.dataWriter_Complete tag w =
      (dw_send (BMsg.complete tag).encode 67 w).bind fun r w' =>
        .ok r { w' with dw := { w'.dw with closed := true } } := by
  unfold TransWriter.dataWriter_Complete
  rw [if_neg (by simp [hc])]
  by_cases h : w.dw.written = 0 ∧ w.dw.columns ≠ none
  · -- through `Empty()`: the writer is closed before the send and once more after it
    rw [if_pos h, dw_Empty_fresh w hc h.1, dw_bind_ok, if_neg (by simp),
      dw_tie_commandComplete tag { w with dw := { w.dw with closed := true } } hp hlen]
    unfold dw_send
    cases w.base.wleft with
    | none => rfl
    | some n => cases n <;> rfl
  · rw [if_neg h, dw_tie_commandComplete tag w hp hlen]
    rfl

theorem dw_tie_Complete_closes (tag : Bytes) (w : DWorld) (hc : w.dw.closed = false) (hp : PutbufOK w.base.writer.putbuf)
    (hlen : tag.length + 6 < 4294967296) :
    ∃ r w', TransWriter.dataWriter_Complete tag w = .ok r w' ∧ w'.dw.closed = true ∧ w'.dw.written = w.dw.written ∧
      PutbufOK w'.base.writer.putbuf ∧
      ((r = none ∧ w'.base.sink = (BMsg.complete tag).encode :: w.base.sink) ∨
       (r = some (.lib .writeErr) ∧ w'.base.sink = w.base.sink)) := by
  rw [dw_tie_Complete tag w hc hp hlen]
  have hpb := pbStart_ok 67 _ hp
  unfold dw_send
  cases w.base.wleft with
  | none => exact ⟨_, _, rfl, rfl, rfl, hpb, Or.inl ⟨rfl, rfl⟩⟩
  | some n =>
    cases n with
    | zero => exact ⟨_, _, rfl, rfl, rfl, hpb, Or.inr ⟨rfl, rfl⟩⟩
    | succ n => exact ⟨_, _, rfl, rfl, rfl, hpb, Or.inl ⟨rfl, rfl⟩⟩

/-- against `dwComplete`: same verdict, same connection, same `closed`/`written` -/
theorem dw_tie_Complete_model (tag : Bytes) (w : DWorld) (d : DW) (s : Sess) (hcl : d.closed = w.dw.closed)
    (hw : (d.written : Int) = w.dw.written) (hconn : dw_Conn w s) (hp : PutbufOK w.base.writer.putbuf)
    (hlen : tag.length + 6 < 4294967296) :
    ∃ r w', TransWriter.dataWriter_Complete tag w = .ok r w' ∧ r.map dw_absErr = (dwComplete d s tag).1 ∧
      (dwComplete d s tag).2.1.closed = w'.dw.closed ∧ ((dwComplete d s tag).2.1.written : Int) = w'.dw.written ∧
      dw_Conn w' (dwComplete d s tag).2.2 := by
  cases hc : w.dw.closed with
  | true =>
    rw [dw_tie_Complete_closed tag w hc, dwComplete, if_pos (hcl.trans hc)]
    exact ⟨_, _, rfl, dw_ErrClosedWriter, hcl, hw, hconn⟩
  | false =>
    obtain ⟨r, w', h1, h2, h3, h4⟩ := dw_send_model (.complete tag) 67 w s hconn
    rw [dw_tie_Complete tag w hc hp hlen, h1, dwComplete, if_neg (by simp [hcl, hc])]
    have hwr : (d.written : Int) = w'.dw.written := by rw [h3]; exact hw
    -- the verdict of the model's `send` picks the branch of `dwComplete` and the result of the code
    rcases hsend : s.send (.complete tag) with ⟨s', ok⟩
    rw [hsend] at h2 h4
    rcases h4 with ⟨rfl, rfl⟩ | ⟨rfl, rfl⟩
    · exact ⟨_, _, rfl, rfl, rfl, hwr, h2⟩
    · exact ⟨_, _, rfl, rfl, rfl, hwr, h2⟩

/-! ### `Row`: closed writer, arity, and the counter (defect D09) -/

theorem dw_tie_Row_closed (fuel : Nat) (vals : List DVal) (w : DWorld) (hc : w.dw.closed = true) :
    TransWriter.dataWriter_Row fuel vals w = .ok TransWriter.ErrClosedWriter w := by
  unfold TransWriter.dataWriter_Row; simp [hc]

def dw_arityFormat : Bytes :=
  ascii "unexpected columns, %d columns are defined inside the given table but %d were given"

/-- wrong arity: the error names both counts; NOTHING is written (not even into the frame buffer: the check
    precedes `Start`), the counter is unchanged — the whole world is -/
theorem dw_tie_Row_arity (fuel : Nat) (vals : List DVal) (w : DWorld) (hc : w.dw.closed = false)
    (ha : (vals.length : Int) ≠ colsLen w.dw.columns) :
    TransWriter.dataWriter_Row fuel vals w =
      .ok (some (.errorf dw_arityFormat [colsLen w.dw.columns, (vals.length : Int)])) w := by
  unfold TransWriter.dataWriter_Row TransWriter.Columns_Write
  simp only [hc, Bool.false_eq_true, if_false, ha, ne_eq, not_false_eq_true, if_true, DOut.bind]
  -- the format string of the code against `dw_arityFormat`: on the characters, not through `String.toList`
  rw [dw_arityFormat, ascii_ofList]
  refine congrArg (fun f => DOut.ok (some (DErr.errorf f _)) w) ?_
  decide +kernel

/-- the text of that error is the model's `errArity` (concrete counts; `dw_fmtD` renders `%d`) -/
example : dw_absErr (.errorf dw_arityFormat [2, 3]) = .lib (errArity 2 3) := by
  unfold dw_arityFormat errArity
  rw [ascii_ofList, ascii_ofList, ascii_ofList, ascii_ofList]
  decide +kernel
example : dw_absErr (.errorf dw_arityFormat [0, 11]) = .lib (errArity 0 11) := by
  unfold dw_arityFormat errArity
  rw [ascii_ofList, ascii_ofList, ascii_ofList, ascii_ofList]
  decide +kernel

/-! #### what `Columns.Write` can touch -/

/-- `w'` differs from `w` in the pkg/buffer part only (`dw`, the context and the encoder are the same) -/
def dw_OnlyBase (w w' : DWorld) : Prop := ∃ b, w' = { w with base := b }

theorem dw_ob_refl (w : DWorld) : dw_OnlyBase w w := ⟨w.base, rfl⟩

def dw_Keeps {α} (w0 : DWorld) (o : DOut α) : Prop := ∀ a w', o = .ok a w' → dw_OnlyBase w0 w'

theorem dw_keeps_ok {α} {w0 w : DWorld} {a : α} (h : dw_OnlyBase w0 w) : dw_Keeps w0 (DOut.ok a w) := by
  intro a' w' e; cases e; exact h

theorem dw_keeps_bind {α β} {w0 : DWorld} {o : DOut α} {k : α → DWorld → DOut β} (ho : dw_Keeps w0 o)
    (hk : ∀ a w1, dw_OnlyBase w0 w1 → dw_Keeps w0 (k a w1)) : dw_Keeps w0 (o.bind k) := by
  intro b w' h
  obtain ⟨a, w1, rfl, h⟩ := dw_bind_eq_ok h
  exact hk a w1 (ho a w1 rfl) b w' h

theorem dw_keeps_liftW {α} {f : World → Out α} {w0 w : DWorld} (h : dw_OnlyBase w0 w) : dw_Keeps w0 (liftW f w) := by
  obtain ⟨b, rfl⟩ := h
  intro a w' e
  unfold liftW at e
  -- only the branch in which `f` returned is an `.ok`
  split at e <;> cases e
  exact ⟨_, rfl⟩

theorem dw_keeps_chk {α β} {w0 : DWorld} {e : Except String α} {k : α → DOut β} (hk : ∀ a, dw_Keeps w0 (k a)) :
    dw_Keeps w0 (chkD e k) := by
  cases e with
  | ok a => exact hk a
  | error m => intro a w' h; cases h

theorem dw_keeps_encodeExt {w0 w : DWorld} {tm : Option TMap} {o f : Int} {v : DVal} {b : Option Bytes}
    (h : dw_OnlyBase w0 w) : dw_Keeps w0 (encodeExt tm o f v b w) := by
  cases tm with
  | none => intro a w' e; cases e
  | some t => exact dw_keeps_ok h

theorem dw_keeps_ite {α} {w0 : DWorld} {c : Prop} [Decidable c] {a b : DOut α} (ha : dw_Keeps w0 a) (hb : dw_Keeps w0 b) :
    dw_Keeps w0 (if c then a else b) := by
  by_cases h : c <;> simp [h, ha, hb]

theorem dw_keeps_Column_Write {w0 w : DWorld} {c : ColumnS} {f : Int} {v : DVal} (h : dw_OnlyBase w0 w) :
    dw_Keeps w0 (TransWriter.Column_Write c f v w) := by
  unfold TransWriter.Column_Write
  refine dw_keeps_ite (dw_keeps_ok h) ?_
  refine dw_keeps_ite (dw_keeps_ok h) ?_
  refine dw_keeps_bind (dw_keeps_encodeExt h) fun a w1 h1 => ?_
  refine dw_keeps_ite (dw_keeps_ok h1) ?_
  refine dw_keeps_bind (dw_keeps_liftW h1) fun a w2 h2 => ?_
  refine dw_keeps_bind (dw_keeps_liftW h2) fun a w3 h3 => ?_
  exact dw_keeps_ok h3

theorem dw_keeps_loop {w0 : DWorld} (fuel : Nat) : ∀ {cols : Cols} {fs : List Int} {srcs : List DVal} {err : Option DErr}
    {xs : List ColumnS} {i : Int} {w : DWorld}, dw_OnlyBase w0 w →
    dw_Keeps w0 (TransWriter.Columns_Write.loop1 fuel cols fs srcs err xs i w) := by
  induction fuel with
  | zero => intro _ _ _ _ _ _ w _ a w' e; unfold TransWriter.Columns_Write.loop1 at e; cases e
  | succ n ih =>
    intro cols fs srcs err xs i w h
    unfold TransWriter.Columns_Write.loop1
    refine dw_keeps_ite ?_ ?_
    · refine dw_keeps_chk fun col => ?_
      refine dw_keeps_chk fun f0 => ?_
      refine dw_keeps_ite ?_ ?_
      · refine dw_keeps_chk fun f1 => ?_
        refine dw_keeps_chk fun v => ?_
        refine dw_keeps_bind (dw_keeps_Column_Write h) fun e w1 h1 => ?_
        exact dw_keeps_ite (dw_keeps_ok h1) (ih h1)
      · refine dw_keeps_chk fun v => ?_
        refine dw_keeps_bind (dw_keeps_Column_Write h) fun e w1 h1 => ?_
        exact dw_keeps_ite (dw_keeps_ok h1) (ih h1)
    · refine dw_keeps_bind (dw_keeps_liftW h) fun a w1 h1 => ?_
      exact dw_keeps_ok h1

/-- `Columns.Write` touches nothing but the buffer writer and the connection behind it -/
theorem dw_keeps_Columns_Write (fuel : Nat) (cols : Cols) (fs : List Int) (srcs : List DVal) (w : DWorld) :
    dw_Keeps w (TransWriter.Columns_Write fuel cols fs srcs w) := by
  unfold TransWriter.Columns_Write
  refine dw_keeps_ite (dw_keeps_ok (dw_ob_refl w)) ?_
  refine dw_keeps_bind (dw_keeps_liftW (dw_ob_refl w)) fun a w1 h1 => ?_
  refine dw_keeps_bind (dw_keeps_liftW h1) fun a w2 h2 => ?_
  exact dw_keeps_loop _ h2

theorem dw_tie_Row_open (fuel : Nat) (vals : List DVal) (w : DWorld) (hc : w.dw.closed = false) :
    TransWriter.dataWriter_Row fuel vals w =
      (TransWriter.Columns_Write fuel w.dw.columns w.dw.formats vals w).bind fun e w' =>
        if e ≠ none then .ok e w'
        else .ok none { w' with dw := { w'.dw with written := dwU64 (w'.dw.written + 1) } } := by
  unfold TransWriter.dataWriter_Row
  simp only [hc, Bool.false_eq_true, if_false]

/-- `written` counts the rows that went out and no others (defect D09, fixed).  For EVERY world, value list and fuel:
    whenever `Row` returns, `written` is incremented if and only if the result is nil — i.e. only after
    `Columns.Write` went through its final `End` without error.  A row that fails (closed writer, arity, context, encoder, transport) is never
    counted; `closed`, the columns and the formats are never touched. -/
theorem dw_tie_Row_counter (fuel : Nat) (vals : List DVal) (w : DWorld) (r : Option DErr) (w' : DWorld)
    (h : TransWriter.dataWriter_Row fuel vals w = .ok r w') :
    w'.dw.closed = w.dw.closed ∧ w'.dw.columns = w.dw.columns ∧ w'.dw.formats = w.dw.formats ∧
    (r = none → w'.dw.written = dwU64 (w.dw.written + 1)) ∧ (r ≠ none → w'.dw.written = w.dw.written) := by
  cases hc : w.dw.closed with
  | true =>
    rw [dw_tie_Row_closed fuel vals w hc] at h
    cases h
    exact ⟨hc, rfl, rfl, fun h => absurd h (by decide), fun _ => rfl⟩
  | false =>
    rw [dw_tie_Row_open fuel vals w hc] at h
    obtain ⟨e, w1, ho, h⟩ := dw_bind_eq_ok h
    obtain ⟨b, rfl⟩ := dw_keeps_Columns_Write fuel w.dw.columns w.dw.formats vals w e w1 ho
    by_cases he : e = none
    · rw [if_neg (not_not_intro he)] at h
      cases h
      exact ⟨hc, rfl, rfl, fun _ => rfl, fun h => absurd rfl h⟩
    · rw [if_pos he] at h
      cases h
      exact ⟨hc, rfl, rfl, fun h => absurd h he, fun _ => rfl⟩

/-- a second `Row` / `Empty` / `Complete` after `Complete` fails with ErrClosedWriter and sends nothing -/
theorem dw_tie_after_Complete (tag : Bytes) (w : DWorld) (hc : w.dw.closed = false) (hp : PutbufOK w.base.writer.putbuf)
    (hlen : tag.length + 6 < 4294967296) :
    ∃ r w', TransWriter.dataWriter_Complete tag w = .ok r w' ∧
      (∀ fuel vals, TransWriter.dataWriter_Row fuel vals w' = .ok TransWriter.ErrClosedWriter w') ∧
      (∀ tag', TransWriter.dataWriter_Complete tag' w' = .ok TransWriter.ErrClosedWriter w') ∧
      TransWriter.dataWriter_Empty w' = .ok TransWriter.ErrClosedWriter w' := by
  obtain ⟨r, w', h, hcl, _⟩ := dw_tie_Complete_closes tag w hc hp hlen
  refine ⟨r, w', h, fun fuel vals => dw_tie_Row_closed fuel vals w' hcl, fun t => dw_tie_Complete_closed t w' hcl, ?_⟩
  rw [dw_tie_Empty]; simp [hcl]

theorem dw_tie_Empty_after_rows (w : DWorld) (hc : w.dw.closed = false) (hw : w.dw.written ≠ 0) :
    TransWriter.dataWriter_Empty w = .ok TransWriter.ErrDataWritten w := by
  rw [dw_tie_Empty]; simp [hc, hw]

/-- what a run left on the connection (newest first), whether it returned an error, `written`, `closed` -/
def dw_ranTo : DOut (Option DErr) → Option (List Bytes × Bool × Int × Bool)
  | .ok r w => some (w.base.sink, r.isSome, w.dw.written, w.dw.closed)
  | _ => none

/-- two columns (int4 oid 23, text oid 25); the encoder: value 0 ↦ NULL (nil buffer), value 9 ↦ an error,
    value n ↦ the n bytes `n, n, …` -/
def dw_exWorld : DWorld :=
  { dw := { columns := some [{ Name := ascii "a", Oid := 23 }, { Name := ascii "b", Oid := 25 }], formats := [1] },
    encode := fun _ _ v b => if v.id = 0 then (none, none) else if v.id = 9 then (b, some (.ext 1))
                             else (some (List.replicate v.id (UInt8.ofNat v.id)), none) }

/-- a row `(2, NULL)`: ONE DataRow, the model's encoding of it; counted -/
example : dw_ranTo (TransWriter.dataWriter_Row 5 [⟨2⟩, ⟨0⟩] dw_exWorld) =
    some ([(BMsg.dataRow [some [2, 2], none]).encode], false, 1, false) := by decide +kernel

example : (BMsg.dataRow [some [2, 2], none]).encode = [68, 0, 0, 0, 16, 0, 2, 0, 0, 0, 2, 2, 2, 255, 255, 255, 255] := by
  decide +kernel

/-- the second value fails to encode: nothing reaches the connection, the row is NOT counted (D09) -/
example : dw_ranTo (TransWriter.dataWriter_Row 5 [⟨2⟩, ⟨9⟩] dw_exWorld) = some ([], true, 0, false) := by decide +kernel

/-- the transport fails in `End`: not counted either -/
example : dw_ranTo (TransWriter.dataWriter_Row 5 [⟨2⟩, ⟨0⟩] { dw_exWorld with base := { wleft := some 0 } }) =
    some ([], true, 0, false) := by decide +kernel

/-- wrong arity, cancelled context, missing type map: an error, nothing sent, not counted -/
example : dw_ranTo (TransWriter.dataWriter_Row 5 [⟨2⟩] dw_exWorld) = some ([], true, 0, false) := by decide +kernel
example : dw_ranTo (TransWriter.dataWriter_Row 5 [⟨2⟩, ⟨0⟩] { dw_exWorld with ctxErr := some (.ext 7) }) =
    some ([], true, 0, false) := by decide +kernel
example : dw_ranTo (TransWriter.dataWriter_Row 5 [⟨2⟩, ⟨0⟩] { dw_exWorld with typeMap := none }) =
    some ([], true, 0, false) := by decide +kernel

/-- a row, then `Complete("SELECT 1")`: DataRow, CommandComplete; closed; a further `Row` fails and sends nothing -/
example : dw_ranTo ((TransWriter.dataWriter_Row 5 [⟨1⟩, ⟨3⟩] dw_exWorld).bind fun _ w =>
      (TransWriter.dataWriter_Complete (ascii "SELECT 1") w).bind fun _ w => TransWriter.dataWriter_Row 5 [⟨1⟩, ⟨3⟩] w) =
    some ([(BMsg.complete (ascii "SELECT 1")).encode, (BMsg.dataRow [some [1], some [3, 3, 3]]).encode], true, 1, true) := by
  decide +kernel

/-- `Empty` after a row: ErrDataWritten, still open -/
example : dw_ranTo ((TransWriter.dataWriter_Row 5 [⟨1⟩, ⟨3⟩] dw_exWorld).bind fun _ w => TransWriter.dataWriter_Empty w) =
    some ([(BMsg.dataRow [some [1], some [3, 3, 3]]).encode], true, 1, false) := by decide +kernel

/-- `Complete` with no rows and columns defined goes through `Empty` and still sends CommandComplete -/
example : dw_ranTo (TransWriter.dataWriter_Complete (ascii "OK") dw_exWorld) =
    some ([(BMsg.complete (ascii "OK")).encode], false, 0, true) := by decide +kernel

/-- `Define`: the RowDescription of the model, formats by the `formatFor` rule (one code for all columns) -/
example : dw_ranTo (TransWriter.dataWriter_Define 5 dw_exWorld.dw.columns dw_exWorld) =
    some ([(BMsg.rowDesc [({ name := ascii "a", oid := 23 }, 1), ({ name := ascii "b", oid := 25 }, 1)]).encode],
      false, 0, false) := by decide +kernel

/-- `Columns.CopyIn(format 1)`: the model's CopyInResponse -/
example : dw_ranTo (TransWriter.Columns_CopyIn 5 dw_exWorld.dw.columns 1 dw_exWorld) =
    some ([(BMsg.copyIn 1 2).encode], false, 0, false) := by decide +kernel

end Pw.Tie
