import Pw.Props.TieFraming
/-
  `Reader.Slurp` (the skipping loop) and the remaining cases of `Reader.ReadTypedMsg` (oversized message, incomplete
  stream) against `readItem`/`readBody`.
-/
namespace Pw.Tie
open Pw.Go

/-- `w'` differs from `w` outside `src` and `reader.Msg` only by allocations of bounded capacity -/
structure Frame (bound : Nat) (w w' : World) : Prop where
  fin : w'.fin = w.fin
  writer : w'.writer = w.writer
  sink : w'.sink = w.sink
  wleft : w'.wleft = w.wleft
  junk : w'.junk = w.junk
  max : w'.reader.MaxMessageSize = w.reader.MaxMessageSize
  header : w'.reader.header = w.reader.header
  allocs : ∃ extra, w'.allocs = extra ++ w.allocs ∧ ∀ c ∈ extra, c ≤ bound

theorem Frame.of_window (B : Nat) (w : World) (m : Sl) (s : Bytes) : Frame B w { setMsg w m with src := s } :=
  ⟨rfl, rfl, rfl, rfl, rfl, rfl, rfl, ⟨[], rfl, by simp⟩⟩

theorem Frame.refl (B : Nat) (w : World) : Frame B w w := Frame.of_window B w _ _

theorem Frame.trans {B : Nat} {w1 w2 w3 : World} (h1 : Frame B w1 w2) (h2 : Frame B w2 w3) : Frame B w1 w3 := by
  obtain ⟨e1, he1, hb1⟩ := h1.allocs
  obtain ⟨e2, he2, hb2⟩ := h2.allocs
  refine ⟨h2.fin.trans h1.fin, h2.writer.trans h1.writer, h2.sink.trans h1.sink, h2.wleft.trans h1.wleft,
    h2.junk.trans h1.junk, h2.max.trans h1.max, h2.header.trans h1.header, ⟨e2 ++ e1, ?_, ?_⟩⟩
  · rw [he2, he1, List.append_assoc]
  · intro c hc
    rcases List.mem_append.mp hc with h | h
    · exact hb2 c h
    · exact hb1 c h

/-- the capacity bound for everything `Slurp` allocates -/
def allocBound (w : World) : Nat := max w.reader.MaxMessageSize.toNat 4096

theorem resetTailSpec_Frame (k B : Nat) (w : World) (hk : (if k < 4096 then 4096 else k) ≤ B) :
    Frame B w (resetTailSpec k w) := by
  unfold resetTailSpec
  split
  · exact Frame.of_window _ _ _ _
  · exact ⟨rfl, rfl, rfl, rfl, rfl, rfl, rfl, ⟨[_], rfl, by simpa using hk⟩⟩

theorem resetSpec_Frame (k B : Nat) (w : World) (hk : (if k < 4096 then 4096 else k) ≤ B) :
    Frame B w (resetSpec k w) := by
  rw [resetSpec_eq]
  exact (Frame.of_window _ _ _ _).trans (resetTailSpec_Frame k B _ hk)

theorem afterRead_reset (k B : Nat) (w : World) (d s : Bytes) (ok : ReaderOK w) (hk : k < 4611686018427387904)
    (hd : d.length = k) (hB : (if k < 4096 then 4096 else k) ≤ B) :
    ReaderOK (afterRead (resetSpec k w) d s) ∧ Frame B w (afterRead (resetSpec k w) d s) := by
  obtain ⟨ok1, hlen⟩ := resetSpec_ok k w ok hk
  exact ⟨afterRead_ok _ _ _ ok1 (by rw [hd, hlen]), (resetSpec_Frame k B w hB).trans (Frame.of_window _ _ _ _)⟩

/-! ### the loop -/

/-- what the loop does with the result of one chunk's `ReadFull` -/
def slurpNext (fuel : Nat) (size remaining : Int) (t : Sl × Int × Option Err) (w : World) : Out (Option Err) :=
  if t.2.2 = some Err.eof then .ok (some Err.unexpectedEOF) (setMsg w t.1)
  else if t.2.2 ≠ none then .ok t.2.2 (setMsg w t.1)
  else Trans.Reader_Slurp.loop1 fuel size (i64 (remaining - t.2.1)) (setMsg w t.1)

/-- both branches of `if reading > Max` are the same code on `min remaining Max`: `reset`, `ReadFull`, `slurpNext`
    (the shape `reset_readFull` steps over) -/
theorem loop1_succ (fuel : Nat) (size remaining : Int) (w : World) :
    Trans.Reader_Slurp.loop1 (fuel + 1) size remaining w =
      if remaining > 0 then
        (Trans.Reader_reset (if remaining > w.reader.MaxMessageSize then w.reader.MaxMessageSize else remaining) w).bind
          fun _ w => (ioReadFullSl w.reader.Msg w).bind (slurpNext fuel size remaining)
      else .ok none w := by
  rw [Trans.Reader_Slurp.loop1]
  by_cases h0 : remaining > 0
  · rw [if_pos h0, if_pos h0]
    by_cases h1 : remaining > w.reader.MaxMessageSize
    · rw [if_pos h1, if_pos h1]; rfl
    · rw [if_neg h1, if_neg h1]; rfl
  · rw [if_neg h0, if_neg h0]

/-- what `Slurp`'s loop achieves from `w` with `remaining` bytes to go (`B`: bound on every allocation made) -/
def SlurpPost (B : Nat) (remaining : Int) (w : World) (o : Out (Option Err)) : Prop :=
  if remaining ≤ (w.src.length : Int) then
    ∃ w', o = .ok none w' ∧ w'.src = w.src.drop remaining.toNat ∧ ReaderOK w' ∧ Frame B w w'
  else match w.fin with
    | .wait => o = .block
    | .rerr => ∃ w', o = .ok (some .readErr) w' ∧ w'.src = [] ∧ ReaderOK w' ∧ Frame B w w'
    | .eof => ∃ w', o = .ok (some .unexpectedEOF) w' ∧ w'.src = [] ∧ ReaderOK w' ∧ Frame B w w'

/-- one chunk read, the rest of the loop does the rest -/
theorem SlurpPost_step (B : Nat) (remaining : Int) (k : Nat) (w w2 : World) (o : Out (Option Err))
    (hk : (k : Int) ≤ remaining) (hl : k ≤ w.src.length)
    (hsrc : w2.src = w.src.drop k) (hfr : Frame B w w2)
    (h : SlurpPost B (remaining - (k : Int)) w2 o) : SlurpPost B remaining w o := by
  unfold SlurpPost at *
  have hlen : (w2.src.length : Int) = (w.src.length : Int) - (k : Int) := by
    rw [hsrc, List.length_drop]; omega
  rw [hfr.fin] at h
  by_cases hc : remaining ≤ (w.src.length : Int)
  · have hc2 : remaining - (k : Int) ≤ (w2.src.length : Int) := by omega
    rw [if_pos hc2] at h
    rw [if_pos hc]
    obtain ⟨w', h1, h2, h3, h4⟩ := h
    refine ⟨w', h1, ?_, h3, hfr.trans h4⟩
    rw [h2, hsrc, List.drop_drop]
    congr 1; omega
  · have hc2 : ¬ (remaining - (k : Int) ≤ (w2.src.length : Int)) := by omega
    rw [if_neg hc2] at h
    rw [if_neg hc]
    cases hf : w.fin <;> rw [hf] at h <;> simp only at h ⊢
    · exact h
    · obtain ⟨w', h1, h2, h3, h4⟩ := h
      exact ⟨w', h1, h2, h3, hfr.trans h4⟩
    · obtain ⟨w', h1, h2, h3, h4⟩ := h
      exact ⟨w', h1, h2, h3, hfr.trans h4⟩

theorem slurp_loop_done {B fuel : Nat} {size remaining : Int} {w : World} (ok : ReaderOK w) (h : remaining ≤ 0) :
    SlurpPost B remaining w (Trans.Reader_Slurp.loop1 (fuel + 1) size remaining w) := by
  rw [loop1_succ, if_neg (by omega)]
  unfold SlurpPost
  rw [if_pos (by omega), Int.toNat_of_nonpos h]
  exact ⟨w, rfl, rfl, ok, Frame.refl _ _⟩

theorem slurp_loop (size M : Int) (hM : 0 < M) : ∀ (f : Nat) (remaining : Int) (w : World), ReaderOK w →
    w.reader.MaxMessageSize = M → remaining < 9223372036854775808 → remaining ≤ (f : Int) * M →
    SlurpPost (max M.toNat 4096) remaining w (Trans.Reader_Slurp.loop1 (f + 1) size remaining w) := by
  intro f
  induction f with
  | zero =>
    intro remaining w ok hMw h63 hf
    exact slurp_loop_done ok (by omega)
  | succ f ih =>
    intro remaining w ok hMw h63 hf
    by_cases h0 : remaining > 0
    · obtain ⟨hm0, hm1⟩ := ok.max
      rw [hMw] at hm0 hm1
      -- the chunk `min remaining M` as a natural number `k`; what is left fits `f` further chunks
      obtain ⟨k, hk, hk1, hk2, hk3, hkM⟩ : ∃ k : Nat, (if remaining > M then M else remaining) = (k : Int) ∧
          0 < k ∧ (k : Int) ≤ remaining ∧ remaining - k ≤ (f : Int) * M ∧ (k : Int) ≤ M := by
        have hmul : ((f + 1 : Nat) : Int) * M = (f : Int) * M + M := by
          rw [Int.natCast_add, Int.add_mul]; simp
        have hnn : 0 ≤ (f : Int) * M := Int.mul_nonneg (by omega) hm0
        refine ⟨(if remaining > M then M else remaining).toNat, ?_⟩
        split <;> omega
      have hB : (if k < 4096 then 4096 else k) ≤ max M.toNat 4096 := by split <;> omega
      rw [loop1_succ, if_pos h0, hMw, hk, reset_readFull k w _ rfl ok (by omega)]
      by_cases hl : k ≤ w.src.length
      · obtain ⟨ok2, fr2⟩ := afterRead_reset k _ w (w.src.take k) (w.src.drop k) ok (by omega)
          (by rw [List.length_take]; omega) hB
        rw [if_pos hl]
        show SlurpPost _ _ _ (Trans.Reader_Slurp.loop1 (f + 1) size (i64 (remaining - (k : Int)))
          (afterRead (resetSpec k w) (w.src.take k) (w.src.drop k)))
        rw [i64_id _ (by omega) (by omega)]
        exact SlurpPost_step _ _ k w _ _ hk2 hl rfl fr2
          (ih (remaining - (k : Int)) _ ok2 (fr2.max.trans hMw) (by omega) hk3)
      · obtain ⟨ok2, fr2⟩ := afterRead_reset k _ w (w.src ++ (resetSpec k w).reader.Msg.data.drop w.src.length) [] ok
          (by omega) (by rw [List.length_append, List.length_drop, (resetSpec_ok k w ok (by omega)).2]; omega) hB
        rw [if_neg hl]
        unfold SlurpPost onDry
        rw [if_neg (by omega)]
        cases w.fin
        · rfl
        · exact ⟨_, rfl, rfl, ok2, fr2⟩
        · refine ⟨_, ?_, rfl, ok2, fr2⟩
          by_cases hs : w.src = [] <;> simp [slurpNext, hs, afterRead, setMsg]
    · exact slurp_loop_done ok (by omega)

/-! ### `Reader.Slurp` -/

/-- fuel that suffices for `Slurp(size)` under limit `max`: one iteration per started chunk of `max` bytes, plus
    the final test of the loop condition -/
def SlurpFuel (fuel : Nat) (size max : Int) : Prop := ∃ f : Nat, fuel = f + 1 ∧ size ≤ (f : Int) * max

theorem SlurpFuel_of_size (fuel : Nat) (size max : Int) (hM : 0 < max) (h : size.toNat + 1 ≤ fuel) :
    SlurpFuel fuel size max := by
  refine ⟨fuel - 1, by omega, ?_⟩
  have h1 : size ≤ ((fuel - 1 : Nat) : Int) := by omega
  have h2 : ((fuel - 1 : Nat) : Int) * 1 ≤ ((fuel - 1 : Nat) : Int) * max :=
    Int.mul_le_mul_of_nonneg_left (by omega) (by omega)
  omega

theorem SlurpFuel_of_div (fuel : Nat) (size max : Int) (hM : 0 < max) (h : (size / max).toNat + 2 ≤ fuel) :
    SlurpFuel fuel size max := by
  refine ⟨fuel - 1, by omega, ?_⟩
  have h0 := Int.emod_add_mul_ediv size max
  have h1 := Int.emod_lt_of_pos size hM
  have h3 : (size / max + 1) * max ≤ ((fuel - 1 : Nat) : Int) * max :=
    Int.mul_le_mul_of_nonneg_right (by omega) (by omega)
  rw [Int.add_mul, Int.one_mul, Int.mul_comm] at h3
  omega

/-- `Slurp(size)` in one statement: enough bytes ⇒ they are skipped in chunks, nothing else changes and no
    allocation exceeds `max Max 4096`; too few bytes ⇒ block / `readErr` / `unexpectedEOF` by the stream's end -/
theorem tie_Slurp (fuel : Nat) (size : Int) (w : World) (ok : ReaderOK w) (hM : 0 < w.reader.MaxMessageSize)
    (h63 : size < 9223372036854775808) (hf : SlurpFuel fuel size w.reader.MaxMessageSize) :
    SlurpPost (allocBound w) size w (Trans.Reader_Slurp fuel size w) := by
  obtain ⟨f, rfl, hf⟩ := hf
  exact slurp_loop size _ hM f size w ok rfl h63 hf

/-- enough bytes on the stream: `Slurp` skips exactly `size` of them -/
theorem tie_Slurp_full (fuel : Nat) (size : Int) (w : World) (ok : ReaderOK w) (hM : 0 < w.reader.MaxMessageSize)
    (h63 : size < 9223372036854775808) (hf : SlurpFuel fuel size w.reader.MaxMessageSize)
    (hl : size ≤ (w.src.length : Int)) :
    ∃ w', Trans.Reader_Slurp fuel size w = .ok none w' ∧ w'.src = w.src.drop size.toNat ∧ ReaderOK w' ∧
      Frame (allocBound w) w w' := by
  have := tie_Slurp fuel size w ok hM h63 hf
  unfold SlurpPost at this
  rw [if_pos hl] at this
  exact this

/-- the stream ends (or stays silent) inside the announced body: never a bare `io.EOF` (fix eb3d69e) -/
theorem tie_Slurp_short (fuel : Nat) (size : Int) (w : World) (ok : ReaderOK w) (hM : 0 < w.reader.MaxMessageSize)
    (h63 : size < 9223372036854775808) (hf : SlurpFuel fuel size w.reader.MaxMessageSize)
    (hl : (w.src.length : Int) < size) :
    match w.fin with
    | .wait => Trans.Reader_Slurp fuel size w = .block
    | .rerr => ∃ w', Trans.Reader_Slurp fuel size w = .ok (some .readErr) w' ∧ w'.src = [] ∧ ReaderOK w' ∧
        Frame (allocBound w) w w'
    | .eof => ∃ w', Trans.Reader_Slurp fuel size w = .ok (some .unexpectedEOF) w' ∧ w'.src = [] ∧ ReaderOK w' ∧
        Frame (allocBound w) w w' := by
  have := tie_Slurp fuel size w ok hM h63 hf
  unfold SlurpPost at this
  have hc : ¬ (size ≤ (w.src.length : Int)) := by omega
  rw [if_neg hc] at this
  exact this

/-- `size ≤ 0` (in particular the negative sizes of a header announcing fewer than 4 bytes): the loop body is not
    entered, for ANY world and limit -/
theorem tie_Slurp_nonpos (fuel : Nat) (size : Int) (w : World) (h : size ≤ 0) :
    Trans.Reader_Slurp (fuel + 1) size w = .ok none w := by
  have h0 : ¬ (size > 0) := by omega
  unfold Trans.Reader_Slurp
  rw [loop1_succ, if_neg h0]

/-- never a panic, never out of fuel -/
theorem tie_Slurp_total (fuel : Nat) (size : Int) (w : World) (ok : ReaderOK w) (hM : 0 < w.reader.MaxMessageSize)
    (h63 : size < 9223372036854775808) (hf : SlurpFuel fuel size w.reader.MaxMessageSize) :
    (∀ m, Trans.Reader_Slurp fuel size w ≠ .panic m) ∧ Trans.Reader_Slurp fuel size w ≠ .fuel := by
  have := tie_Slurp fuel size w ok hM h63 hf
  unfold SlurpPost at this
  split at this
  · obtain ⟨w', h1, _⟩ := this
    rw [h1]; simp
  · cases hfin : w.fin <;> rw [hfin] at this <;> simp only at this
    · rw [this]; simp
    · obtain ⟨w', h1, _⟩ := this
      rw [h1]; simp
    · obtain ⟨w', h1, _⟩ := this
      rw [h1]; simp

/-- the hypothesis `0 < MaxMessageSize` is needed: with limit 0 the loop makes no progress (every chunk is empty)
    and any fuel runs out — in Go, `Slurp` would spin for ever.  (`NewReader` replaces a non-positive limit by the
    default, so the server never builds such a reader.) -/
theorem slurp_zero_limit_spins (size : Int) (h0 : 0 < size) (h63 : size < 9223372036854775808) :
    ∀ (fuel : Nat) (w : World), ReaderOK w → w.reader.MaxMessageSize = 0 →
      Trans.Reader_Slurp.loop1 fuel size size w = .fuel := by
  intro fuel
  induction fuel with
  | zero => intro w _ _; rfl
  | succ f ih =>
    intro w ok hM
    rw [loop1_succ, if_pos (by omega), hM, if_pos (by omega)]
    show ((Trans.Reader_reset ((0 : Nat) : Int) w).bind _) = _
    rw [reset_readFull 0 w _ rfl ok (by omega), if_pos (Nat.zero_le _)]
    show Trans.Reader_Slurp.loop1 f size (i64 (size - ((0 : Nat) : Int)))
      (afterRead (resetSpec 0 w) (w.src.take 0) (w.src.drop 0)) = .fuel
    have hi : i64 (size - ((0 : Nat) : Int)) = size := by unfold i64; omega
    rw [hi]
    obtain ⟨ok2, fr2⟩ := afterRead_reset 0 4096 w (w.src.take 0) (w.src.drop 0) ok (by omega) rfl (by decide)
    exact ih _ ok2 (by rw [fr2.max]; exact hM)

/-! ### `ReadTypedMsg` on an oversized message, then `Slurp` -/

theorem readBody_big {L : Nat} {t t' : UInt8} {dcl : Nat} {r rest : Bytes} {size : Int} {full : Bool}
    (h : readBody L t' dcl r = some (.big t size full, rest)) :
    sizeVerdict L dcl = .exceeded size ∧ t' = t ∧
      ((size < 0 ∧ full = true ∧ rest = r) ∨
       (0 ≤ size ∧ (r.length : Int) < size ∧ full = false ∧ rest = []) ∨
       (0 ≤ size ∧ size ≤ (r.length : Int) ∧ full = true ∧ rest = r.drop size.toNat)) := by
  refine readBody_inv h ?_ ?_ ?_ ?_ ?_
  · intro _ _ _ e; cases e
  · intro _ _ _ e; cases e
  · intro sz hv h0 e; cases e; exact ⟨hv, rfl, Or.inl ⟨h0, rfl, rfl⟩⟩
  · intro sz hv h0 h1 e; cases e; exact ⟨hv, rfl, Or.inr (Or.inl ⟨h0, h1, rfl, rfl⟩)⟩
  · intro sz hv h0 h1 e; cases e; exact ⟨hv, rfl, Or.inr (Or.inr ⟨h0, h1, rfl, rfl⟩)⟩

/-- an oversized (or negative-size) message: `ReadTypedMsg` reports the type and `sizeExceeded Max size`, the
    stream is positioned right behind the five header bytes, nothing has been allocated -/
theorem tie_ReadTypedMsg_big (w : World) (ok : ReaderOK w) (t : UInt8) (size : Int) (full : Bool) (rest : Bytes)
    (h : readItem w.reader.MaxMessageSize.toNat w.src = some (.big t size full, rest)) :
    ∃ a b c d r, w.src = t :: a :: b :: c :: d :: r ∧
      size = ((declaredOf a b c d : Nat) : Int) - 4 ∧ (size > w.reader.MaxMessageSize ∨ size < 0) ∧
      size < 4294967296 ∧
      ((size < 0 ∧ full = true ∧ rest = r) ∨
       (0 ≤ size ∧ (r.length : Int) < size ∧ full = false ∧ rest = []) ∨
       (0 ≤ size ∧ size ≤ (r.length : Int) ∧ full = true ∧ rest = r.drop size.toNat)) ∧
      Trans.Reader_ReadTypedMsg w =
        .ok (t, 0, some (.sizeExceeded w.reader.MaxMessageSize size)) (setHeader { w with src := r } [a, b, c, d]) ∧
      ReaderOK (setHeader { w with src := r } [a, b, c, d]) := by
  obtain ⟨t', a, b, c, d, r, hsrc, hb⟩ := readItem_some h
  obtain ⟨hv, ht, hcases⟩ := readBody_big hb
  subst ht
  obtain ⟨hsz, hcond⟩ := sizeVerdict_exceeded hv
  obtain ⟨hm0, _⟩ := ok.max
  have hdl := declaredOf_lt a b c d
  refine ⟨a, b, c, d, r, hsrc, hsz.symm, by omega, by omega, hcases, ?_, setHeader_ok w r _ ok rfl⟩
  rw [tie_ReadTypedMsg_cons w _ _ hsrc, tie_ReadUntypedMsg_big _ (ok.src _) a b c d r size rfl hv]
  rfl

/-- `ReadTypedMsg` on an oversized message followed by `Slurp(size)`, against the model's `.big t size full`:
    `full = true` ⇒ the skip succeeds and the stream is at `rest` (nothing consumed for `size < 0`), every allocation
    made is ≤ `max Max 4096`; `full = false` ⇒ block / `readErr` / `unexpectedEOF` and the stream is used up
    (`rest = []`). -/
theorem tie_big_then_Slurp (fuel : Nat) (w : World) (ok : ReaderOK w) (hM : 0 < w.reader.MaxMessageSize)
    (t : UInt8) (size : Int) (full : Bool) (rest : Bytes)
    (h : readItem w.reader.MaxMessageSize.toNat w.src = some (.big t size full, rest))
    (hf : SlurpFuel fuel size w.reader.MaxMessageSize) :
    ∃ w1, Trans.Reader_ReadTypedMsg w = .ok (t, 0, some (.sizeExceeded w.reader.MaxMessageSize size)) w1 ∧
      ReaderOK w1 ∧ (∃ hdr, w1 = setHeader { w with src := w.src.drop 5 } hdr) ∧
      (full = true → ∃ w2, Trans.Reader_Slurp fuel size w1 = .ok none w2 ∧ w2.src = rest ∧ ReaderOK w2 ∧
          Frame (allocBound w) w1 w2) ∧
      (full = false → rest = [] ∧
        match w.fin with
        | .wait => Trans.Reader_Slurp fuel size w1 = .block
        | .rerr => ∃ w2, Trans.Reader_Slurp fuel size w1 = .ok (some .readErr) w2 ∧ w2.src = [] ∧ ReaderOK w2 ∧
            Frame (allocBound w) w1 w2
        | .eof => ∃ w2, Trans.Reader_Slurp fuel size w1 = .ok (some .unexpectedEOF) w2 ∧ w2.src = [] ∧ ReaderOK w2 ∧
            Frame (allocBound w) w1 w2) := by
  obtain ⟨a, b, c, d, r, hsrc, hsz, hcond, h32, hcases, hcall, ok1⟩ := tie_ReadTypedMsg_big w ok t size full rest h
  refine ⟨_, hcall, ok1, ⟨[a, b, c, d], by simp [hsrc]⟩, ?_, ?_⟩
  · intro hfull
    rcases hcases with ⟨h0, _, hr⟩ | ⟨_, _, hff, _⟩ | ⟨h0, hl, _, hr⟩
    · obtain ⟨f, rfl, _⟩ := hf
      refine ⟨_, tie_Slurp_nonpos f size _ (by omega), by rw [hr]; rfl, ok1, Frame.refl _ _⟩
    · rw [hff] at hfull; cases hfull
    · have := tie_Slurp_full fuel size _ ok1 hM (by omega) hf hl
      rw [hr]; exact this
  · intro hfull
    rcases hcases with ⟨_, hff, _⟩ | ⟨h0, hl, _, hr⟩ | ⟨_, _, hff, _⟩
    · rw [hff] at hfull; cases hfull
    · exact ⟨hr, tie_Slurp_short fuel size _ ok1 hM (by omega) hf hl⟩
    · rw [hff] at hfull; cases hfull

/-! ### `ReadTypedMsg` on an incomplete stream -/

theorem readBody_none {L : Nat} {t : UInt8} {dcl : Nat} {r : Bytes} (h : readBody L t dcl r = none) :
    ∃ n, sizeVerdict L dcl = .ok n ∧ r.length < n := by
  refine readBody_inv h ?_ ?_ ?_ ?_ ?_
  · intro n hv hn _; exact ⟨n, hv, hn⟩
  · intro _ _ _ e; cases e
  · intro _ _ _ e; cases e
  · intro _ _ _ _ e; cases e
  · intro _ _ _ _ e; cases e

theorem readItem_none {L : Nat} {inp : Bytes} (h : readItem L inp = none) :
    inp = [] ∨ ∃ t s, inp = t :: s ∧ (s.length < 4 ∨ ∃ a b c d r n,
      s = a :: b :: c :: d :: r ∧ sizeVerdict L (declaredOf a b c d) = .ok n ∧ r.length < n) := by
  unfold readItem at h
  rcases inp with _ | ⟨t, s⟩
  · exact Or.inl rfl
  · refine Or.inr ⟨t, s, rfl, ?_⟩
    dsimp only at h
    cases hr : rd32 s with
    | none => exact Or.inl (rd32_none.mp hr)
    | some p =>
      obtain ⟨dcl, r⟩ := p
      obtain ⟨a, b, c, d, hs, rfl⟩ := rd32_some.mp hr
      rw [hr] at h
      obtain ⟨n, hn⟩ := readBody_none h
      exact Or.inr ⟨a, b, c, d, r, n, hs, hn⟩

/-- what an unsuccessful `ReadTypedMsg` leaves behind: the stream is used up, the reader is in shape, and apart
    from the length header only the window and the allocator (by bounded entries) have changed -/
structure ShortPost (w w' : World) : Prop where
  src : w'.src = []
  ok : ReaderOK w'
  frame : ∃ hdr, Frame (allocBound w) (setHeader w hdr) w'

/-- `ReadTypedMsg` when the stream ends before the message is complete (`readItem = none`: no type byte, fewer than
    four length bytes, or an in-limit body shorter than declared): blocks on a silent stream; otherwise the error is
    `io.EOF` only when NOTHING of a message had arrived, `unexpectedEOF`/`readErr` when the stream broke inside one.
    The reported size is 0 and the type is the type byte if one arrived. -/
theorem tie_ReadTypedMsg_short (w : World) (ok : ReaderOK w)
    (h : readItem w.reader.MaxMessageSize.toNat w.src = none) :
    match w.fin with
    | .wait => Trans.Reader_ReadTypedMsg w = .block
    | .rerr => ∃ w', Trans.Reader_ReadTypedMsg w = .ok (w.src.headD 0, 0, some .readErr) w' ∧ ShortPost w w'
    | .eof => ∃ w', Trans.Reader_ReadTypedMsg w =
          .ok (w.src.headD 0, 0, some (if w.src = [] then .eof else .unexpectedEOF)) w' ∧ ShortPost w w' := by
  rcases readItem_none h with hs | ⟨t, s, hs, hcase⟩
  · -- nothing at all
    have post : ShortPost w w := ⟨hs, ok, ⟨w.reader.header, Frame.refl _ _⟩⟩
    rw [tie_ReadTypedMsg_nil w hs, onDry, hs]
    cases w.fin
    · rfl
    · exact ⟨w, rfl, post⟩
    · exact ⟨w, rfl, post⟩
  · -- behind the type byte `ReadUntypedMsg` runs dry, inside the length word or inside the body
    obtain ⟨n, W, w0, hf, e, post⟩ : ∃ n W w0, w0.fin = w.fin ∧ Trans.Reader_ReadUntypedMsg { w with src := s } =
        onDry w0 (fun e => .ok (n, some e) W) ∧ ShortPost w W := by
      rcases hcase with hr | ⟨a, b, c, d, r, n, rfl, hv, hr⟩
      · have hh : (s ++ w.reader.header.drop s.length).length = 4 := by
          rw [List.length_append, List.length_drop, ok.hdr]; omega
        exact ⟨_, setHeader { w with src := [] } (s ++ w.reader.header.drop s.length), { w with src := s }, rfl,
          tie_ReadUntypedMsg_shorthdr _ (ok.src s) hr, rfl, setHeader_ok w [] _ ok hh, s ++ w.reader.header.drop s.length,
          Frame.of_window _ _ _ _⟩
      · obtain ⟨_, hle⟩ := sizeVerdict_ok hv
        obtain ⟨hm0, hm1⟩ := ok.max
        have ok1 := setHeader_ok w r [a, b, c, d] ok rfl
        obtain ⟨ok2, fr2⟩ := afterRead_reset n (allocBound w) _
          (r ++ (resetSpec n (setHeader { w with src := r } [a, b, c, d])).reader.Msg.data.drop r.length) [] ok1
          (by omega) (by rw [List.length_append, List.length_drop, (resetSpec_ok n _ ok1 (by omega)).2]; omega)
          (by unfold allocBound; split <;> omega)
        have f1 : Frame (allocBound w) (setHeader w [a, b, c, d]) (setHeader { w with src := r } [a, b, c, d]) :=
          Frame.of_window _ _ _ _
        exact ⟨_, afterShortBody w [a, b, c, d] r n, { w with src := r }, rfl,
          tie_ReadUntypedMsg_shortbody _ (ok.src _) a b c d r n rfl hv hr, rfl, ok2, _, f1.trans fr2⟩
    -- the type byte in front: size 0, and a bare `io.EOF` becomes `unexpectedEOF`
    rw [tie_ReadTypedMsg_cons w t s hs, e, onDry_bind, hs]
    unfold onDry
    rw [hf]
    cases w.fin
    · rfl
    · exact ⟨W, rfl, post⟩
    · refine ⟨W, ?_, post⟩
      by_cases h0 : w0.src = [] <;> simp [typedOf, h0, Out.bind]

/-! ### `ReadTypedMsg` is total on every well-formed reader and keeps the reader's invariant -/

/-- a result that is neither a panic nor an exhausted loop -/
def Fine {α} (o : Out α) : Prop := (∃ a w, o = .ok a w) ∨ o = .block

theorem Fine.not_panic {α} {o : Out α} (h : Fine o) : (∀ m, o ≠ .panic m) ∧ o ≠ .fuel := by
  rcases h with ⟨a, w, h⟩ | h <;> rw [h] <;> simp

/-- every case of `readItem` at once: `ReadTypedMsg` returns with the reader in shape again, or blocks on a
    silent stream -/
theorem tie_ReadTypedMsg_returns (w : World) (ok : ReaderOK w) :
    (∃ res w', Trans.Reader_ReadTypedMsg w = .ok res w' ∧ ReaderOK w') ∨
    (Trans.Reader_ReadTypedMsg w = .block ∧ w.fin = .wait) := by
  cases hri : readItem w.reader.MaxMessageSize.toNat w.src with
  | none =>
    have := tie_ReadTypedMsg_short w ok hri
    cases hf : w.fin <;> rw [hf] at this <;> simp only at this
    · exact Or.inr ⟨this, rfl⟩
    · obtain ⟨w', e, post⟩ := this
      exact Or.inl ⟨_, w', e, post.ok⟩
    · obtain ⟨w', e, post⟩ := this
      exact Or.inl ⟨_, w', e, post.ok⟩
  | some p =>
    obtain ⟨it, rest⟩ := p
    cases it with
    | msg t body =>
      have hlen := readItem_msg_len _ _ _ _ _ hri
      obtain ⟨hm0, hm1⟩ := ok.max
      obtain ⟨a, b, c, d, r, _, _, _, hbr, e⟩ := tie_ReadTypedMsg_msg w ok t body rest hri
      exact Or.inl ⟨_, _, e, afterMsg_ok _ (ok.src _) _ _ _ rfl hbr (by omega)⟩
    | big t size full =>
      obtain ⟨a, b, c, d, r, _, _, _, _, _, e, ok1⟩ := tie_ReadTypedMsg_big w ok t size full rest hri
      exact Or.inl ⟨_, _, e, ok1⟩

/-- for EVERY well-formed reader and EVERY stream, `ReadTypedMsg` returns normally or blocks (and blocks only on a
    silent stream): no index or slice expression of ReadType/ReadMsgSize/ReadUntypedMsg/reset can go out of bounds,
    no `make` can be asked for a negative or inverted size -/
theorem tie_ReadTypedMsg_fine (w : World) (ok : ReaderOK w) :
    Fine (Trans.Reader_ReadTypedMsg w) ∧ (Trans.Reader_ReadTypedMsg w = .block → w.fin = .wait) := by
  rcases tie_ReadTypedMsg_returns w ok with ⟨res, w', e, _⟩ | ⟨e, hf⟩
  · rw [e]; exact ⟨Or.inl ⟨_, _, rfl⟩, fun h => by cases h⟩
  · exact ⟨Or.inr e, fun _ => hf⟩

theorem tie_ReadTypedMsg_total (w : World) (ok : ReaderOK w) :
    (∀ m, Trans.Reader_ReadTypedMsg w ≠ .panic m) ∧ Trans.Reader_ReadTypedMsg w ≠ .fuel :=
  (tie_ReadTypedMsg_fine w ok).1.not_panic

/-- whatever `ReadTypedMsg` returns, the reader it leaves behind is well-formed again (so the theorems of this
    file apply to the next call, and to the `Slurp` that follows an oversized message) -/
theorem tie_ReadTypedMsg_keeps_ok (w : World) (ok : ReaderOK w) (res : UInt8 × Int × Option Err) (w' : World)
    (h : Trans.Reader_ReadTypedMsg w = .ok res w') : ReaderOK w' := by
  rcases tie_ReadTypedMsg_returns w ok with ⟨res2, w2, e, ok2⟩ | ⟨e, _⟩
  · rw [e] at h; injection h with _ hw; rw [← hw]; exact ok2
  · rw [e] at h; cases h

/-! ### non-vacuity: concrete worlds satisfying the hypotheses, and the translated code run on them -/

/-- limit 8; a Query announcing 20 body bytes (all present) and a Sync behind it; then the stream ends -/
def exFull : World :=
  { reader := { MaxMessageSize := 8 }, fin := .eof,
    src := [81, 0, 0, 0, 24] ++ List.replicate 20 65 ++ [83, 0, 0, 0, 4] }
/-- the same announcement with only 5 of the 20 bytes -/
def exCut (f : Fin) : World :=
  { reader := { MaxMessageSize := 8 }, fin := f, src := [81, 0, 0, 0, 24] ++ List.replicate 5 65 }

def outWorld {α} : Out α → Option World
  | .ok _ w => some w
  | _ => none
def outVal {α} : Out α → Option α
  | .ok a _ => some a
  | _ => none
def outIsBlock {α} : Out α → Bool
  | .block => true
  | _ => false

theorem exFull_ok : ReaderOK exFull :=
  ⟨by unfold Sl.WF; decide, by unfold Sl.NilOK; decide, by decide, by decide⟩
theorem exCut_ok (f : Fin) : ReaderOK (exCut f) := by
  cases f <;> exact ⟨by unfold Sl.WF; decide, by unfold Sl.NilOK; decide, by decide, by decide⟩

example : readItem exFull.reader.MaxMessageSize.toNat exFull.src = some (.big 81 20 true, [83, 0, 0, 0, 4]) := by decide
example (f : Fin) : readItem (exCut f).reader.MaxMessageSize.toNat (exCut f).src = some (.big 81 20 false, []) := by
  cases f <;> decide
example : SlurpFuel 4 20 exFull.reader.MaxMessageSize := SlurpFuel_of_div 4 20 8 (by decide) (by decide)
example : SlurpFuel 21 20 exFull.reader.MaxMessageSize := SlurpFuel_of_size 21 20 8 (by decide) (by decide)

/-- the hypotheses of `tie_big_then_Slurp` hold of `exFull`; and running the translated code on it gives what the
    theorem says: Sync is next, three chunks (8, 8, 4) were read into ONE 4096-byte allocation -/
example : ∃ w1, Trans.Reader_ReadTypedMsg exFull = .ok (81, 0, some (.sizeExceeded 8 20)) w1 ∧
    ∃ w2, Trans.Reader_Slurp 4 20 w1 = .ok none w2 ∧ w2.src = [83, 0, 0, 0, 4] := by
  obtain ⟨w1, h1, _, _, h2, _⟩ := tie_big_then_Slurp 4 exFull exFull_ok (by decide) 81 20 true [83, 0, 0, 0, 4]
    (by decide) (SlurpFuel_of_div 4 20 8 (by decide) (by decide))
  obtain ⟨w2, h3, h4, _⟩ := h2 rfl
  exact ⟨w1, h1, w2, h3, h4⟩

example : (outWorld ((Trans.Reader_ReadTypedMsg exFull).bind fun _ w => Trans.Reader_Slurp 4 20 w)).map
    (fun w => (w.src, w.allocs, w.reader.Msg.cap)) = some ([83, 0, 0, 0, 4], [4096], 4096 - 16) := by decide

/-- `full = false`: the three ends of the stream, hypotheses discharged on `exCut`, conclusion as the theorem says -/
example : ∃ w1, Trans.Reader_ReadTypedMsg (exCut .eof) = .ok (81, 0, some (.sizeExceeded 8 20)) w1 ∧
    ∃ w2, Trans.Reader_Slurp 4 20 w1 = .ok (some .unexpectedEOF) w2 ∧ w2.src = [] := by
  obtain ⟨w1, h1, _, _, _, h2⟩ := tie_big_then_Slurp 4 (exCut .eof) (exCut_ok _) (by decide) 81 20 false []
    (by decide) (SlurpFuel_of_div 4 20 8 (by decide) (by decide))
  obtain ⟨w2, h3, h4, _⟩ := (h2 rfl).2
  exact ⟨w1, h1, w2, h3, h4⟩

example : outVal ((Trans.Reader_ReadTypedMsg (exCut .eof)).bind fun _ w => Trans.Reader_Slurp 4 20 w) =
    some (some .unexpectedEOF) := by decide
example : outVal ((Trans.Reader_ReadTypedMsg (exCut .rerr)).bind fun _ w => Trans.Reader_Slurp 4 20 w) =
    some (some .readErr) := by decide
example : outIsBlock ((Trans.Reader_ReadTypedMsg (exCut .wait)).bind fun _ w => Trans.Reader_Slurp 4 20 w) = true := by
  decide
/-- the stream ends exactly at a chunk boundary (8 of 20 bytes): still `unexpectedEOF`, not `EOF` (eb3d69e) -/
example : outVal (Trans.Reader_Slurp 4 20 { reader := { MaxMessageSize := 8 }, fin := .eof, src := List.replicate 8 65 }) =
    some (some .unexpectedEOF) := by decide

/-- `tie_Slurp_full`, `tie_Slurp_short`, `tie_Slurp_total`: hypotheses hold of a reader positioned at a body -/
def exBody (n : Nat) (f : Fin) : World := { reader := { MaxMessageSize := 8 }, fin := f, src := List.replicate n 65 }
theorem exBody_ok (n : Nat) (f : Fin) : ReaderOK (exBody n f) := by
  refine ⟨?_, ?_, by simp [exBody], by simp [exBody]⟩
  · unfold Sl.WF; simp [exBody]
  · unfold Sl.NilOK; simp [exBody]
example : ∃ w', Trans.Reader_Slurp 4 20 (exBody 23 .eof) = .ok none w' ∧ w'.src = [65, 65, 65] := by
  obtain ⟨w', h1, h2, _⟩ := tie_Slurp_full 4 20 (exBody 23 .eof) (exBody_ok _ _) (by decide) (by decide)
    (SlurpFuel_of_div 4 20 8 (by decide) (by decide)) (by decide)
  exact ⟨w', h1, by rw [h2]; decide⟩
example : ∃ w', Trans.Reader_Slurp 4 20 (exBody 19 .eof) = .ok (some .unexpectedEOF) w' ∧ w'.src = [] := by
  obtain ⟨w', h1, h2, _⟩ := tie_Slurp_short 4 20 (exBody 19 .eof) (exBody_ok _ _) (by decide) (by decide)
    (SlurpFuel_of_div 4 20 8 (by decide) (by decide)) (by decide)
  exact ⟨w', h1, h2⟩
example : Trans.Reader_Slurp 4 20 (exBody 19 .wait) = .block :=
  tie_Slurp_short 4 20 (exBody 19 .wait) (exBody_ok _ _) (by decide) (by decide)
    (SlurpFuel_of_div 4 20 8 (by decide) (by decide)) (by decide)

/-- negative size: a header announcing 3 bytes gives `size = -1`; `Slurp(-1)` returns at once, nothing is consumed -/
example : readItem 8 [81, 0, 0, 0, 3, 83, 0, 0, 0, 4] = some (.big 81 (-1) true, [83, 0, 0, 0, 4]) := by decide
example (w : World) : Trans.Reader_Slurp 1 (-1) w = .ok none w := tie_Slurp_nonpos 0 (-1) w (by decide)
example (w : World) : Trans.Reader_Slurp 1 0 w = .ok none w := tie_Slurp_nonpos 0 0 w (by decide)
/-- with no fuel at all the translated loop reports `.fuel` (so the `fuel + 1` above is needed) -/
example (w : World) : Trans.Reader_Slurp 0 0 w = .fuel := rfl
/-- inadequate fuel on a long body: `.fuel` (three iterations do not skip 20 bytes at limit 8: the fourth call,
    which would find `remaining = 0`, is missing) -/
example : (match Trans.Reader_Slurp 3 20 (exBody 23 .eof) with | .fuel => true | _ => false) = true := by decide

/-- `tie_ReadTypedMsg_short`: the three shapes of an incomplete stream -/
def exShort (s : Bytes) (f : Fin) : World := { reader := { MaxMessageSize := 8 }, fin := f, src := s }
theorem exShort_ok (s : Bytes) (f : Fin) : ReaderOK (exShort s f) := by
  refine ⟨?_, ?_, by simp [exShort], by simp [exShort]⟩
  · unfold Sl.WF; simp [exShort]
  · unfold Sl.NilOK; simp [exShort]
example : readItem 8 [] = none ∧ readItem 8 [81, 0, 0] = none ∧ readItem 8 [81, 0, 0, 0, 10, 1, 2] = none := by decide
/-- nothing arrived: a clean `io.EOF` -/
example : ∃ w', Trans.Reader_ReadTypedMsg (exShort [] .eof) = .ok (0, 0, some .eof) w' :=
  (tie_ReadTypedMsg_short (exShort [] .eof) (exShort_ok _ _) (by decide)).imp fun _ h => h.1
/-- the stream ends inside the length / inside the body: `unexpectedEOF` -/
example : ∃ w', Trans.Reader_ReadTypedMsg (exShort [81, 0, 0] .eof) = .ok (81, 0, some .unexpectedEOF) w' :=
  (tie_ReadTypedMsg_short (exShort [81, 0, 0] .eof) (exShort_ok _ _) (by decide)).imp fun _ h => h.1
example : ∃ w', Trans.Reader_ReadTypedMsg (exShort [81] .eof) = .ok (81, 0, some .unexpectedEOF) w' :=
  (tie_ReadTypedMsg_short (exShort [81] .eof) (exShort_ok _ _) (by decide)).imp fun _ h => h.1
example : ∃ w', Trans.Reader_ReadTypedMsg (exShort [81, 0, 0, 0, 10, 1, 2] .eof) = .ok (81, 0, some .unexpectedEOF) w' :=
  (tie_ReadTypedMsg_short (exShort [81, 0, 0, 0, 10, 1, 2] .eof) (exShort_ok _ _) (by decide)).imp fun _ h => h.1
example : ∃ w', Trans.Reader_ReadTypedMsg (exShort [81, 0, 0, 0, 10] .eof) = .ok (81, 0, some .unexpectedEOF) w' :=
  (tie_ReadTypedMsg_short (exShort [81, 0, 0, 0, 10] .eof) (exShort_ok _ _) (by decide)).imp fun _ h => h.1
example : ∃ w', Trans.Reader_ReadTypedMsg (exShort [81, 0, 0, 0, 10, 1, 2] .rerr) = .ok (81, 0, some .readErr) w' :=
  (tie_ReadTypedMsg_short (exShort [81, 0, 0, 0, 10, 1, 2] .rerr) (exShort_ok _ _) (by decide)).imp fun _ h => h.1
example : Trans.Reader_ReadTypedMsg (exShort [81, 0, 0, 0, 10, 1, 2] .wait) = .block :=
  tie_ReadTypedMsg_short (exShort [81, 0, 0, 0, 10, 1, 2] .wait) (exShort_ok _ _) (by decide)

/-- `slurp_zero_limit_spins` is not vacuous: a well-formed reader with limit 0 exists in the model (the server's
    `NewReader` never builds one), and on it any amount of fuel runs out -/
def exZero : World := { reader := { MaxMessageSize := 0 }, fin := .eof, src := [1, 2, 3] }
theorem exZero_ok : ReaderOK exZero :=
  ⟨by unfold Sl.WF; decide, by unfold Sl.NilOK; decide, by decide, by decide⟩
example (fuel : Nat) : Trans.Reader_Slurp fuel 3 exZero = .fuel :=
  slurp_zero_limit_spins 3 (by decide) (by decide) fuel exZero exZero_ok rfl

end Pw.Tie
