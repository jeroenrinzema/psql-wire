import Pw.Props.C05
/-
  C13 — COPY-in: data delivered in order, abort reported exactly once.
-/
namespace Pw.Props.C13
open Pw.Props.C05

/-- Flush and Sync are the messages the COPY reader skips -/
def skippable : Item → Bool
  | .msg t _ => t = ch 'H' || t = ch 'S'
  | _ => false

theorem copyRead_skip {i : Inp} {t : UInt8} {body : Bytes} {r : List Item} (fuel : Nat)
    (hi : i.items = .msg t body :: r) (ht : t = ch 'H' ∨ t = ch 'S') :
    copyRead (fuel + 1) i = copyRead fuel { i with items := r, msg := body } := by
  rw [copyRead]
  simp only [Inp.next, hi, if_pos ht]

/-- **Flush and Sync are ignored**: any run of them in front of the next message is skipped -/
theorem C13_skip_flush_sync (pre : List Item) (hpre : ∀ it ∈ pre, skippable it = true) :
    ∀ (i : Inp) (rest : List Item) (fuel : Nat), i.items = pre ++ rest → pre.length ≤ fuel →
      ∃ m, copyRead (fuel + 1) i = copyRead (fuel + 1 - pre.length) { i with items := rest, msg := m } := by
  induction pre with
  | nil => intro i rest fuel hi _; exact ⟨i.msg, by simp at hi; simp [← hi]⟩
  | cons it pre ih =>
    intro i rest fuel hi hf
    cases it with
    | big t size full => exact absurd (hpre _ (.head _)) nofun
    | msg t body =>
      have ht : t = ch 'H' ∨ t = ch 'S' := by simpa [skippable] using hpre _ (.head _)
      cases fuel with
      | zero => simp at hf
      | succ fuel =>
        obtain ⟨m, hm⟩ := ih (fun x hx => hpre x (.tail _ hx)) { i with items := pre ++ rest, msg := body } rest fuel rfl
          (by simpa using hf)
        refine ⟨m, ?_⟩
        rw [copyRead_skip (r := pre ++ rest) _ hi ht, List.length_cons, Nat.add_sub_add_right]
        exact hm

/-- **CopyData**: the payload reaches the handler byte-exact, and only that message is consumed -/
theorem C13_data (i : Inp) (p : Bytes) (rest : List Item) (fuel : Nat)
    (hi : i.items = .msg (ch 'd') p :: rest) :
    copyRead (fuel + 1) i = (some (.data p), { i with items := rest, msg := p }) := by
  simp [copyRead, Inp.next, hi, ch]

/-- **CopyDone** surfaces as end-of-stream -/
theorem C13_done (i : Inp) (b : Bytes) (rest : List Item) (fuel : Nat)
    (hi : i.items = .msg (ch 'c') b :: rest) :
    copyRead (fuel + 1) i = (some .eof, { i with items := rest, msg := b }) := by
  simp [copyRead, Inp.next, hi, ch]

/-- **CopyFail** surfaces as an error that is neither nil nor EOF, and nothing is written -/
theorem C13_fail (i : Inp) (desc rest' : Bytes) (b : Bytes) (rest : List Item) (fuel : Nat)
    (hi : i.items = .msg (ch 'f') b :: rest) (hb : cstr b = some (desc, rest')) :
    copyRead (fuel + 1) i = (some (.err (.lib (errCopyFailed desc))), { i with items := rest, msg := rest' }) := by
  simp [copyRead, Inp.next, hi, ch, hb]

/-- **any non-COPY message** aborts the COPY with a non-nil, non-EOF error -/
theorem C13_foreign (i : Inp) (t : UInt8) (b : Bytes) (rest : List Item) (fuel : Nat)
    (hi : i.items = .msg t b :: rest)
    (h1 : t ≠ ch 'H') (h2 : t ≠ ch 'S') (h3 : t ≠ ch 'd') (h4 : t ≠ ch 'c') (h5 : t ≠ ch 'f') :
    copyRead (fuel + 1) i = (some (.err (.lib (errUnimplemented t))), { i with items := rest, msg := b }) := by
  simp [copyRead, Inp.next, hi, h1, h2, h3, h4, h5]

/-- the COPY reader itself never writes to the client: it is a function of the input
    component only (its type), so the only reports of an aborted COPY are those of the
    command cycle -/
theorem C13_reader_silent (fuel : Nat) (s : Sess) :
    ∀ r i', copyRead fuel s.inp = (r, i') → ({ s with inp := i' } : Sess).out = s.out := by
  intro r i' _; rfl

/-- **CopyInResponse** announces the requested format for every declared column -/
theorem C13_copyin_response (d : DW) (s : Sess) (fmt : Nat) (hc : d.closed = false) (hcols : d.cols.length ≠ 0)
    (hw : s.wleft = none) :
    (dwCopyIn d s fmt).1 = none ∧
    (dwCopyIn d s fmt).2.2.out = .copyIn (fmt % 256) d.cols.length :: s.out ∧
    (dwCopyIn d s fmt).2.1.copy = true := by
  simp [dwCopyIn, hc, hcols, Sess.send, hw, Sess.setMsg]

/-- a statement function — COPY reads included — can never emit an ErrorResponse or a
    ReadyForQuery itself -/
theorem C13_handler_emits_no_error (p : Prog) (d : DW) (s : Sess) :
    (runProg p d s).2.out.countP isErr = s.out.countP isErr ∧
    (runProg p d s).2.out.countP isReady = s.out.countP isReady :=
  ⟨(runProg_facts p d s).errs, (runProg_facts p d s).ready⟩

/-- **one cycle**: whatever happens during a COPY started by a simple Query — CopyFail, a
    foreign message, a handler that stops reading or fails — the cycle contains at most one
    ErrorResponse and exactly one ReadyForQuery -/
theorem C13_one_cycle (h : Handlers) (s s' : Sess) (hc : handleSimpleQuery h s = .cont s') :
    s'.out.countP isErr ≤ s.out.countP isErr + 1 ∧
    s'.out.countP isReady = s.out.countP isReady + 1 := by
  refine ⟨?_, (C05_cycle h s s' hc).1⟩
  obtain ⟨body, nev, eb, b, a, hb⟩ := handleSimpleQuery_cycle h s s' hc
  rw [a.out]
  cases eb <;> simp [List.countP_cons, List.countP_append, isErr, (cycle_counts hb).2]

/-- non-vacuity: payloads in order, Sync/Flush skipped, CopyDone ends the stream -/
example :
    let i : Inp := { L := 100, tail := .wait, items :=
      [Item.msg 100 [1, 2], Item.msg 83 [], Item.msg 72 [], Item.msg 100 [3], Item.msg 99 []] }
    (copyRead 9 i).1 = some (.data [1, 2]) ∧
    (copyRead 9 (copyRead 9 i).2).1 = some (.data [3]) ∧
    (copyRead 9 (copyRead 9 (copyRead 9 i).2).2).1 = some .eof := by decide

end Pw.Props.C13
