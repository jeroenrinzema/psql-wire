import Pw.Props.Tie
/-
  Message framing (`ReadUntypedMsg`, `ReadTypedMsg`) against `readItem` / `sizeVerdict` of Model/Reader.lean.
  Each translated function gets ONE equation per shape of the stream (`tie_ReadUntypedMsg_shorthdr`, `_hdr`,
  `tie_ReadTypedMsg_nil`, `_cons`); the theorems that start from a verdict of the model (`readItem … = some (.msg …)`
  and, in TieSlurp.lean, `.big` and `none`) invert the model's definition and rewrite with these.
-/
namespace Pw.Tie
open Pw.Go

/-- what a read meets when the stream holds too little: it blocks, or `k` gets the transport's error
    (`io.EOF` only if nothing at all was left) -/
def onDry {α} (w : World) (k : Err → Out α) : Out α :=
  match w.fin with
  | .wait => .block
  | .rerr => k .readErr
  | .eof => k (if w.src = [] then .eof else .unexpectedEOF)

theorem onDry_bind {α β} (w : World) (k : Err → Out α) (f : α → World → Out β) :
    (onDry w k).bind f = onDry w fun e => (k e).bind f := by
  unfold onDry; cases w.fin <;> rfl

theorem onDry_congr {α} {w w' : World} (hf : w'.fin = w.fin) (hs : w'.src = w.src) (k : Err → Out α) :
    onDry w' k = onDry w k := by
  unfold onDry; rw [hf, hs]

theorem ioReadFullSl_dry (p : Sl) (w : World) (hn : w.src.length < p.data.length) :
    ioReadFullSl p w = onDry w fun e =>
      .ok ({ p with data := w.src ++ p.data.drop w.src.length }, (w.src.length : Int), some e) { w with src := [] } := by
  rw [ioReadFullSl_short p w (by omega)]; rfl

theorem setHeader_ok (w : World) (s hdr : Bytes) (ok : ReaderOK w) (hh : hdr.length = 4) :
    ReaderOK (setHeader { w with src := s } hdr) := ⟨ok.wf, ok.nilok, hh, ok.max⟩

theorem resetSpec_ok (k : Nat) (w : World) (ok : ReaderOK w) (hk : k < 4611686018427387904) :
    ReaderOK (resetSpec k w) ∧ (resetSpec k w).reader.Msg.data.length = k := by
  obtain ⟨_, h1, h2, h3⟩ := resetSpec_heap k w [] ok.wf ok.nilok hk
  obtain ⟨_, _, _, _, _, _, h7, h8⟩ := resetSpec_frame k w
  exact ⟨⟨h1, h2, by rw [h8]; exact ok.hdr, by rw [h7]; exact ok.max⟩, h3⟩

/-- the world after the window (already `reset`) has been overwritten with `d` and the stream advanced -/
def afterRead (w1 : World) (d s : Bytes) : World :=
  { setMsg w1 { w1.reader.Msg with data := d } with src := s }

theorem afterRead_ok (w1 : World) (d s : Bytes) (ok : ReaderOK w1) (hd : d.length = w1.reader.Msg.data.length) :
    ReaderOK (afterRead w1 d s) := by
  obtain ⟨wf, nk, hh, hm⟩ := ok
  refine ⟨?_, ?_, hh, hm⟩
  · unfold Sl.WF at *; simp [afterRead, setMsg]; omega
  · unfold Sl.NilOK at *
    intro hn
    have := nk hn
    simp [afterRead, setMsg] at *
    refine ⟨this.1, ?_⟩
    rw [this.2] at hd
    exact List.eq_nil_of_length_eq_zero hd

/-! ### `reset(k)` followed by `io.ReadFull(reader.Msg)`: the step `ReadUntypedMsg` and `Slurp` share -/

/-- `K` is the rest of the calling function.  `s` names the stream (`hs` is `rfl` when the caller knows it). -/
theorem reset_readFull {α} (k : Nat) (w : World) (s : Bytes) (hs : w.src = s) (ok : ReaderOK w)
    (hk : k < 4611686018427387904) (K : Sl × Int × Option Err → World → Out α) :
    ((Trans.Reader_reset (k : Int) w).bind fun _ w => (ioReadFullSl w.reader.Msg w).bind K) =
      if k ≤ s.length then
        K ({ (resetSpec k w).reader.Msg with data := s.take k }, (k : Int), none) { resetSpec k w with src := s.drop k }
      else onDry w fun e =>
        K ({ (resetSpec k w).reader.Msg with data := s ++ (resetSpec k w).reader.Msg.data.drop s.length },
            (s.length : Int), some e) { resetSpec k w with src := [] } := by
  subst hs
  rw [tie_reset k w ok.wf ok.nilok, Out.ok_bind]
  obtain ⟨_, hlen⟩ := resetSpec_ok k w ok hk
  obtain ⟨hsrc, hfin, _⟩ := resetSpec_frame k w
  by_cases hl : k ≤ w.src.length
  · rw [if_pos hl, ioReadFullSl_enough _ _ (by rw [hlen, hsrc]; exact hl), Out.ok_bind, hlen, hsrc]
  · rw [if_neg hl, ioReadFullSl_dry _ _ (by rw [hlen, hsrc]; omega), onDry_bind, onDry_congr hfin hsrc, hsrc]
    rfl

/-! ### `ReadUntypedMsg` -/

/-- the world after a complete message of `n` body bytes has been read from `hdr ++ r` -/
def afterMsg (w : World) (hdr r : Bytes) (n : Nat) : World :=
  let w1 := resetSpec n (setHeader { w with src := r } hdr)
  { setMsg w1 { w1.reader.Msg with data := r.take n } with src := r.drop n }

/-- the world after a read of an `n`-byte body met the end of the stream after `r` -/
def afterShortBody (w : World) (hdr r : Bytes) (n : Nat) : World :=
  let w1 := resetSpec n (setHeader { w with src := r } hdr)
  afterRead w1 (r ++ w1.reader.Msg.data.drop r.length) []

theorem tie_ReadUntypedMsg_shorthdr (w : World) (ok : ReaderOK w) (hs : w.src.length < 4) :
    Trans.Reader_ReadUntypedMsg w = onDry w fun e =>
      .ok (0, some e) (setHeader { w with src := [] } (w.src ++ w.reader.header.drop w.src.length)) := by
  unfold Trans.Reader_ReadUntypedMsg onDry
  rw [tie_ReadMsgSize_short w ok.hdr hs]
  cases w.fin <;> rfl

/-- behind a complete length word, by the model's verdict `v` on it (`hv` is `rfl`, or the caller's hypothesis): the
    size error, the complete body, or the end of the stream inside the body -/
theorem tie_ReadUntypedMsg_hdr (w : World) (ok : ReaderOK w) (a b c d : UInt8) (r : Bytes) (v : SizeVerdict)
    (hs : w.src = a :: b :: c :: d :: r) (hv : sizeVerdict w.reader.MaxMessageSize.toNat (declaredOf a b c d) = v) :
    Trans.Reader_ReadUntypedMsg w =
      -- `hv` mentions `v`: by default it would be carried through the match as a second argument of its motive
      match (generalizing := false) v with
      | .exceeded size =>
        .ok (size, some (.sizeExceeded w.reader.MaxMessageSize size)) (setHeader { w with src := r } [a, b, c, d])
      | .ok n =>
        if n ≤ r.length then .ok (4 + (n : Int), none) (afterMsg w [a, b, c, d] r n)
        else onDry { w with src := r } fun e =>
          .ok (i64 (4 + (r.length : Int)), some e) (afterShortBody w [a, b, c, d] r n) := by
  have hdl := declaredOf_lt a b c d
  obtain ⟨hm0, hm1⟩ := ok.max
  have ok1 : ReaderOK (setHeader { w with src := r } [a, b, c, d]) := setHeader_ok w r _ ok rfl
  unfold Trans.Reader_ReadUntypedMsg
  rw [tie_ReadMsgSize_full w a b c d r ok.hdr hs, Out.ok_bind]
  simp only [ne_eq, not_true_eq_false, if_false]
  cases v with
  | exceeded size =>
    obtain ⟨hsz, hc⟩ := sizeVerdict_exceeded hv
    rw [hsz, if_pos (by show size > w.reader.MaxMessageSize ∨ size < 0; omega)]
    rfl
  | ok n =>
    obtain ⟨hsz, hle⟩ := sizeVerdict_ok hv
    rw [hsz, if_neg (by show ¬ ((n : Int) > w.reader.MaxMessageSize ∨ (n : Int) < 0); omega),
      reset_readFull n _ r rfl ok1 (by omega)]
    show _ = if n ≤ r.length then _ else _
    by_cases hl : n ≤ r.length
    · rw [if_pos hl, if_pos hl]
      show Out.ok (i64 (4 + (n : Int)), none) _ = _
      rw [i64_id _ (by omega) (by omega)]
      rfl
    · rw [if_neg hl, if_neg hl]
      rfl

theorem tie_ReadUntypedMsg_ok (w : World) (ok : ReaderOK w) (a b c d : UInt8) (r : Bytes) (n : Nat)
    (hs : w.src = a :: b :: c :: d :: r)
    (hv : sizeVerdict w.reader.MaxMessageSize.toNat (declaredOf a b c d) = .ok n) (hr : n ≤ r.length) :
    Trans.Reader_ReadUntypedMsg w = .ok (4 + (n : Int), none) (afterMsg w [a, b, c, d] r n) := by
  rw [tie_ReadUntypedMsg_hdr w ok a b c d r _ hs hv]
  exact if_pos hr

theorem tie_ReadUntypedMsg_big (w : World) (ok : ReaderOK w) (a b c d : UInt8) (r : Bytes) (size : Int)
    (hs : w.src = a :: b :: c :: d :: r)
    (hv : sizeVerdict w.reader.MaxMessageSize.toNat (declaredOf a b c d) = .exceeded size) :
    Trans.Reader_ReadUntypedMsg w =
      .ok (size, some (.sizeExceeded w.reader.MaxMessageSize size)) (setHeader { w with src := r } [a, b, c, d]) :=
  tie_ReadUntypedMsg_hdr w ok a b c d r _ hs hv

theorem tie_ReadUntypedMsg_shortbody (w : World) (ok : ReaderOK w) (a b c d : UInt8) (r : Bytes) (n : Nat)
    (hs : w.src = a :: b :: c :: d :: r)
    (hv : sizeVerdict w.reader.MaxMessageSize.toNat (declaredOf a b c d) = .ok n) (hr : r.length < n) :
    Trans.Reader_ReadUntypedMsg w = onDry { w with src := r } fun e =>
      .ok (i64 (4 + (r.length : Int)), some e) (afterShortBody w [a, b, c, d] r n) := by
  rw [tie_ReadUntypedMsg_hdr w ok a b c d r _ hs hv]
  exact if_neg (by omega)

/-! ### `ReadTypedMsg` = `ReadType`, then `ReadUntypedMsg` with its result adjusted -/

/-- on an error the size is reported as 0, and a bare `io.EOF` behind the type byte becomes `unexpectedEOF` -/
def typedOf (t : UInt8) (x : Int × Option Err) : UInt8 × Int × Option Err :=
  (t, if x.2 = none then x.1 else 0, if x.2 = some .eof then some .unexpectedEOF else x.2)

theorem tie_ReadTypedMsg_nil (w : World) (hs : w.src = []) :
    Trans.Reader_ReadTypedMsg w = onDry w fun e => .ok (0, 0, some e) w := by
  unfold Trans.Reader_ReadTypedMsg onDry
  rw [tie_ReadType, hs]
  cases w.fin <;> rfl

theorem tie_ReadTypedMsg_cons (w : World) (t : UInt8) (s : Bytes) (hs : w.src = t :: s) :
    Trans.Reader_ReadTypedMsg w =
      (Trans.Reader_ReadUntypedMsg { w with src := s }).bind fun x w' => .ok (typedOf t x) w' := by
  unfold Trans.Reader_ReadTypedMsg
  rw [tie_ReadType, hs]
  simp only [Out.ok_bind, ne_eq, not_true_eq_false, if_false]
  cases Trans.Reader_ReadUntypedMsg { w with src := s } with
  | ok x w' =>
    obtain ⟨n, err⟩ := x
    cases err with
    | none => rfl
    | some e => by_cases he : e = .eof <;> simp [Out.bind, typedOf, he]
  | _ => rfl

/-! ### the model's `readItem`, read backwards -/

theorem readItem_some {L : Nat} {inp : Bytes} {x : Item × Bytes} (h : readItem L inp = some x) :
    ∃ t a b c d r, inp = t :: a :: b :: c :: d :: r ∧ readBody L t (declaredOf a b c d) r = some x := by
  unfold readItem at h
  rcases inp with _ | ⟨t, s⟩
  · cases h
  · dsimp only at h
    cases hr : rd32 s with
    | none => rw [hr] at h; cases h
    | some p =>
      obtain ⟨dcl, r⟩ := p
      obtain ⟨a, b, c, d, hs, hv⟩ := rd32_some.mp hr
      rw [hr] at h
      exact ⟨t, a, b, c, d, r, by rw [hs], by rw [← h, hv]⟩

/-- `readBody` read backwards, once for all results: an in-limit body that is incomplete / complete; an out-of-limit
    size that is negative / whose body is incomplete / whose body is there to be skipped -/
theorem readBody_inv {Q : Prop} {L : Nat} {t : UInt8} {dcl : Nat} {r : Bytes} {o : Option (Item × Bytes)}
    (h : readBody L t dcl r = o)
    (short : ∀ n, sizeVerdict L dcl = .ok n → r.length < n → o = none → Q)
    (msg : ∀ n, sizeVerdict L dcl = .ok n → n ≤ r.length → o = some (.msg t (r.take n), r.drop n) → Q)
    (neg : ∀ size, sizeVerdict L dcl = .exceeded size → size < 0 → o = some (.big t size true, r) → Q)
    (cut : ∀ size, sizeVerdict L dcl = .exceeded size → 0 ≤ size → (r.length : Int) < size →
      o = some (.big t size false, []) → Q)
    (skip : ∀ size, sizeVerdict L dcl = .exceeded size → 0 ≤ size → size ≤ (r.length : Int) →
      o = some (.big t size true, r.drop size.toNat) → Q) : Q := by
  unfold readBody at h
  cases hv : sizeVerdict L dcl with
  | ok n =>
    rw [hv] at h
    dsimp only at h
    by_cases hl : r.length < n
    · exact short n hv hl (by rw [← h, if_pos hl])
    · exact msg n hv (by omega) (by rw [← h, if_neg hl])
  | exceeded size =>
    rw [hv] at h
    dsimp only at h
    by_cases h0 : size < 0
    · exact neg size hv h0 (by rw [← h, if_pos h0])
    · by_cases h1 : r.length < size.toNat
      · exact cut size hv (by omega) (by omega) (by rw [← h, if_neg h0, if_pos h1])
      · exact skip size hv (by omega) (by omega) (by rw [← h, if_neg h0, if_neg h1])

theorem readBody_msg {L : Nat} {t t' : UInt8} {dcl : Nat} {r body rest : Bytes}
    (h : readBody L t' dcl r = some (.msg t body, rest)) :
    ∃ n, sizeVerdict L dcl = .ok n ∧ t' = t ∧ n ≤ r.length ∧ body = r.take n ∧ rest = r.drop n := by
  refine readBody_inv h ?_ ?_ ?_ ?_ ?_
  · intro _ _ _ e; cases e
  · intro n hv hn e; cases e; exact ⟨n, hv, rfl, hn, rfl, rfl⟩
  · intro _ _ _ e; cases e
  · intro _ _ _ _ e; cases e
  · intro _ _ _ _ e; cases e

theorem readItem_msg_inv {L : Nat} {inp : Bytes} {t : UInt8} {body rest : Bytes}
    (h : readItem L inp = some (.msg t body, rest)) :
    ∃ a b c d r, inp = t :: a :: b :: c :: d :: r ∧ sizeVerdict L (declaredOf a b c d) = .ok body.length ∧
      body.length ≤ r.length ∧ body.length ≤ L ∧ body = r.take body.length ∧ rest = r.drop body.length := by
  obtain ⟨t', a, b, c, d, r, hsrc, hrb⟩ := readItem_some h
  obtain ⟨n, hv, ht, hn, hb, hr⟩ := readBody_msg hrb
  subst ht
  have hbl : body.length = n := by rw [hb, List.length_take]; omega
  rw [hbl]
  exact ⟨a, b, c, d, r, hsrc, hv, hn, (sizeVerdict_ok hv).2, hb, hr⟩

theorem readItem_msg_len (L : Nat) (inp : Bytes) (t : UInt8) (body rest : Bytes)
    (h : readItem L inp = some (.msg t body, rest)) : body.length ≤ L := by
  obtain ⟨_, _, _, _, _, _, _, _, hL, _⟩ := readItem_msg_inv h
  exact hL

/-- a complete in-limit message: `ReadTypedMsg` delivers exactly what `readItem` says -/
theorem tie_ReadTypedMsg_msg (w : World) (ok : ReaderOK w) (t : UInt8) (body rest : Bytes)
    (h : readItem w.reader.MaxMessageSize.toNat w.src = some (.msg t body, rest)) :
    ∃ a b c d r, w.src = t :: a :: b :: c :: d :: r ∧ body = r.take body.length ∧ rest = r.drop body.length ∧
      body.length ≤ r.length ∧
      Trans.Reader_ReadTypedMsg w =
        .ok (t, 4 + (body.length : Int), none) (afterMsg { w with src := a :: b :: c :: d :: r } [a, b, c, d] r body.length) := by
  obtain ⟨a, b, c, d, r, hsrc, hv, hn, _, hb, hr⟩ := readItem_msg_inv h
  refine ⟨a, b, c, d, r, hsrc, hb, hr, hn, ?_⟩
  rw [tie_ReadTypedMsg_cons w _ _ hsrc, tie_ReadUntypedMsg_ok _ (ok.src _) a b c d r _ rfl hv hn]
  rfl

theorem afterMsg_ok (w : World) (ok : ReaderOK w) (hdr r : Bytes) (n : Nat) (hh : hdr.length = 4)
    (hn : n ≤ r.length) (h62 : n < 4611686018427387904) : ReaderOK (afterMsg w hdr r n) := by
  obtain ⟨ok2, hlen⟩ := resetSpec_ok n _ (setHeader_ok w r hdr ok hh) h62
  exact afterRead_ok _ (r.take n) (r.drop n) ok2 (by rw [hlen, List.length_take]; omega)

end Pw.Tie
