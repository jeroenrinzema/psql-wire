import Pw.Lemmas.Serve
import Pw.Props.C10
/-
  C11 — TLS upgrade: everything after 'S' is inside TLS, nothing before it is trusted.
  The model keeps the two byte streams apart by construction: `inp` is what arrives on the raw
  connection, `tin` the plaintext the TLS layer hands over after the handshake.
-/
namespace Pw.Props.C11

/-- an SSLRequest packet: length 8, protocol code 80877103 -/
def sslRequest : Bytes := be32 8 ++ be32 versionSSL

theorem read_sslRequest (L : Nat) (hL : 4 ≤ L) (rest : Bytes) :
    readUntyped L (sslRequest ++ rest) = .msg (be32 versionSSL) rest := by
  have h1 : rd32 (sslRequest ++ rest) = some (8, be32 versionSSL ++ rest) := by
    unfold sslRequest
    rw [List.append_assoc]
    exact rd32_be32 8 (by omega) _
  have hv : sizeVerdict L 8 = .ok 4 := C10.verdict_within hL
  unfold readUntyped
  rw [h1]
  simp only [hv]
  have hlen : ¬ (be32 versionSSL ++ rest).length < 4 := by simp
  rw [if_neg hlen]
  simp [be32]

/-- the session state after the one-byte reply has been written -/
def afterReply (cfg : Config) : Sess :=
  { inp := { L := effLimit cfg.L, items := [], tail := cfg.tail },
    wleft := match cfg.wleft with | some (n + 1) => some n | w => w }

/-- the rest of `serve` once the version of the (second) startup packet is to be read from `src` -/
def continueOn (cfg : Config) (h : Handlers) (src : Bytes) (stuffed : Bool) (ssl : UInt8) : Result :=
  match readUntyped (effLimit cfg.L) src with
  | .short => finish (afterReply cfg) (endOf cfg.tail) [] [] stuffed (some ssl)
  | .exceeded => finish (afterReply cfg) .closed [] [] stuffed (some ssl)
  | .msg body rest' =>
    match getU32 body with
    | none => finish (afterReply cfg) .closed [] [] stuffed (some ssl)
    | some (version, body) =>
      if version = versionCancel then finish (afterReply cfg) .closed [] [] stuffed (some ssl)
      else serveAfterVersion cfg h (afterReply cfg) body rest' stuffed (some ssl)

theorem afterReply_eq (cfg : Config) : afterReply cfg = startSess cfg (cfg.wleft.map (· - 1)) := by
  -- `some 0` stays `some 0` on either side: the subtraction is truncated
  unfold afterReply startSess
  rcases cfg.wleft with _ | _ | n <;> rfl

theorem writeRaw_ok (cfg : Config) (hw : cfg.wleft ≠ some 0) :
    writeRaw (startSess cfg cfg.wleft) = (afterReply cfg, true) := by
  rw [writeRaw_startSess, afterReply_eq, bne_iff_ne.mpr hw]

theorem continueOn_eq (cfg : Config) (h : Handlers) (src : Bytes) (st : Bool) (ssl : UInt8) :
    continueOn cfg h src st ssl = startupRound cfg h (afterReply cfg) src st (some ssl) := rfl

theorem serve_sslRequest (cfg : Config) (h : Handlers) (rest tin : Bytes) (hL : 4 ≤ effLimit cfg.L) :
    serve cfg h (sslRequest ++ rest) tin =
      match writeRaw (startSess cfg cfg.wleft) with
      | (s0, false) => finish s0 .closed [] []
      | (s0, true) =>
        if cfg.tls < 2 then startupRound cfg h s0 rest false (some (ch 'N'))
        else startupRound cfg h s0 tin (!rest.isEmpty) (some (ch 'S')) := by
  have hv : getU32 (be32 versionSSL) = some (versionSSL, []) := rd32_be32' _ (by decide)
  rw [serve_eq, read_sslRequest _ hL]
  simp only [hv, Option.map_some, if_true]
  rfl

theorem sav_fields (cfg : Config) (h : Handlers) (s0 : Sess) (body rest : Bytes) (st : Bool) (ssl : Option UInt8) :
    serveAfterVersion cfg h s0 body rest st ssl
      = { serveAfterVersion cfg h s0 body rest with ssl := ssl, stuffed := st } := by
  unfold serveAfterVersion
  dsimp only
  split
  · simp [finish]
  · split
    · simp [finish]
    · split
      · simp [finish]
      · split
        · simp [finish]
        · simp [finish]

theorem sav_cfg (cfg cfg' : Config) (h : Handlers) (s0 : Sess) (body rest : Bytes) (st : Bool) (ssl : Option UInt8)
    (ha : cfg'.auth = cfg.auth) (hv : cfg'.version = cfg.version) (hg : cfg'.gparams = cfg.gparams) :
    serveAfterVersion cfg' h s0 body rest st ssl = serveAfterVersion cfg h s0 body rest st ssl := by
  unfold serveAfterVersion authPhase serverParams
  simp only [ha, hv, hg]

theorem startupRound_fields (cfg : Config) (h : Handlers) (s0 : Sess) (src : Bytes) (st : Bool) (ssl : Option UInt8) :
    startupRound cfg h s0 src st ssl = { startupRound cfg h s0 src false none with ssl := ssl, stuffed := st } := by
  unfold startupRound
  split
  · rfl
  · rfl
  · split
    · rfl
    · split
      · rfl
      · exact sav_fields _ _ _ _ _ _ _

theorem startupRound_cfg (cfg cfg' : Config) (h : Handlers) (s0 : Sess) (src : Bytes) (st : Bool) (ssl : Option UInt8)
    (hL : cfg'.L = cfg.L) (ht : cfg'.tail = cfg.tail)
    (ha : cfg'.auth = cfg.auth) (hv : cfg'.version = cfg.version) (hg : cfg'.gparams = cfg.gparams) :
    startupRound cfg' h s0 src st ssl = startupRound cfg h s0 src st ssl := by
  unfold startupRound
  simp only [hL, ht, sav_cfg cfg cfg' h s0 _ _ st ssl ha hv hg]

/-- **C11 (upgrade).** With certificates configured an SSLRequest is answered with the single
    byte 'S'; from then on the connection is served from `tin` — the plaintext inside the TLS
    session — and from nothing else: the raw bytes `rest` that followed the SSLRequest on the
    wire appear nowhere in the result except in the `stuffed` flag. -/
theorem C11_upgrade (cfg : Config) (h : Handlers) (rest tin : Bytes) (hL : 4 ≤ effLimit cfg.L)
    (ht : cfg.tls ≥ 2) (hw : cfg.wleft ≠ some 0) :
    serve cfg h (sslRequest ++ rest) tin = continueOn cfg h tin (!rest.isEmpty) (ch 'S') := by
  rw [serve_sslRequest cfg h rest tin hL, writeRaw_ok cfg hw, continueOn_eq]
  exact if_neg (by omega)

/-- **pre-handshake plaintext is never interpreted**: two connections that differ only in what
    the client pushed in plaintext behind the SSLRequest get the same replies, run the same
    callbacks with the same arguments and see the same parameters -/
theorem C11_plaintext_ignored (cfg : Config) (h : Handlers) (rest1 rest2 tin : Bytes) (hL : 4 ≤ effLimit cfg.L)
    (ht : cfg.tls ≥ 2) (hw : cfg.wleft ≠ some 0) :
    let a := serve cfg h (sslRequest ++ rest1) tin
    let b := serve cfg h (sslRequest ++ rest2) tin
    a.ssl = b.ssl ∧ a.msgs = b.msgs ∧ a.ev = b.ev ∧ a.clientParams = b.clientParams ∧
    a.serverParams = b.serverParams := by
  intro a b
  simp only [a, b, C11_upgrade cfg h _ tin hL ht hw, continueOn_eq]
  rw [startupRound_fields _ _ _ _ (!rest1.isEmpty), startupRound_fields _ _ _ _ (!rest2.isEmpty)]
  exact ⟨rfl, rfl, rfl, rfl, rfl⟩

/-- **C11 (no certificates).** Without certificates the answer is the single byte 'N' and the
    same connection continues in plaintext: the bytes behind the SSLRequest are read as a fresh
    startup packet -/
theorem C11_refused (cfg : Config) (h : Handlers) (rest tin : Bytes) (hL : 4 ≤ effLimit cfg.L)
    (ht : cfg.tls < 2) (hw : cfg.wleft ≠ some 0) :
    serve cfg h (sslRequest ++ rest) tin = continueOn cfg h rest false (ch 'N') := by
  rw [serve_sslRequest cfg h rest tin hL, writeRaw_ok cfg hw, continueOn_eq]
  exact if_pos ht

/-- the write of the one-byte reply fails: nothing at all is sent or run -/
theorem C11_reply_fails (cfg : Config) (h : Handlers) (rest tin : Bytes) (hL : 4 ≤ effLimit cfg.L)
    (hw : cfg.wleft = some 0) :
    let r := serve cfg h (sslRequest ++ rest) tin
    r.ssl = none ∧ r.msgs = [] ∧ r.ev = [] ∧ r.ending = .closed := by
  intro r
  simp only [r, serve_sslRequest cfg h rest tin hL, writeRaw_startSess, hw]
  exact ⟨rfl, rfl, rfl, rfl⟩

/-- **the TLS session behaves exactly like its plaintext equivalent**: serving `tin` inside TLS
    gives the result of serving the same bytes on a plaintext connection (whose transport allows
    one write fewer: the 'S' has been spent), for every first packet that is not itself an
    SSLRequest -/
theorem C11_equivalent (cfg : Config) (h : Handlers) (rest tin : Bytes) (hL : 4 ≤ effLimit cfg.L)
    (ht : cfg.tls ≥ 2) (hw : cfg.wleft ≠ some 0)
    (hv : ∀ body r v b, readUntyped (effLimit cfg.L) tin = .msg body r → getU32 body = some (v, b) → v ≠ versionSSL) :
    let plain := serve { cfg with wleft := (afterReply cfg).wleft } h tin
    serve cfg h (sslRequest ++ rest) tin = { plain with ssl := some (ch 'S'), stuffed := !rest.isEmpty } := by
  intro plain
  have hs : startSess { cfg with wleft := (afterReply cfg).wleft } (afterReply cfg).wleft = afterReply cfg := rfl
  rw [C11_upgrade cfg h rest tin hL ht hw, continueOn_eq, startupRound_fields]
  simp only [plain]
  rw [serve_plain { cfg with wleft := (afterReply cfg).wleft } h tin [] hv, hs,
    startupRound_cfg cfg { cfg with wleft := (afterReply cfg).wleft } h _ tin false none rfl rfl rfl rfl rfl]

/-- a CancelRequest sent inside the TLS session is refused like any other: no reply beyond the
    'S', no callback, connection closed -/
theorem C11_cancel_inside_tls (cfg : Config) (h : Handlers) (rest tin body r b : Bytes) (hL : 4 ≤ effLimit cfg.L)
    (ht : cfg.tls ≥ 2) (hw : cfg.wleft ≠ some 0)
    (h1 : readUntyped (effLimit cfg.L) tin = .msg body r) (h2 : getU32 body = some (versionCancel, b)) :
    let res := serve cfg h (sslRequest ++ rest) tin
    res.ssl = some (ch 'S') ∧ res.msgs = [] ∧ res.ev = [] ∧ res.ending = .closed := by
  intro res
  simp only [res, C11_upgrade cfg h rest tin hL ht hw]
  unfold continueOn
  simp [h1, h2, finish, afterReply]

/-- non-vacuity: SSLRequest with stuffed plaintext, then (inside TLS) a CancelRequest -/
example :
    let r := serve { tls := 2 } { parse := fun _ => .ok [], validate := fun _ _ _ => .accept, mws := [], terminate := none }
      (sslRequest ++ [1, 2, 3]) (be32 16 ++ be32 versionCancel ++ [0, 0, 0, 1, 0, 0, 0, 2])
    r.ssl = some 83 ∧ r.msgs = [] ∧ r.ending = .closed ∧ r.stuffed = true := by decide

end Pw.Props.C11
