import Pw.Model.ConcF
import Pw.Props.C16
/-
  C16 at the level of individual synchronisation operations: the inductive invariant of the
  fine-grained model (Model/ConcF.lean) and the guarantees of Close derived from it.
-/
namespace Pw.ConcF

structure Inv (s : St) : Prop where
  -- `srv.mu`: one thread is between `mu.Lock` and `mu.Unlock` when the mutex is taken, none when it is free
  mutex : s.closers.countP CPc.holds + s.workers.countP WPc.holds = if s.lock then 1 else 0
  -- once `closing` is set, `close(srv.closer)` has run once or the closer that did `closing.Store(true)` is
  -- about to run it; before, neither
  chan : s.chanCloses + s.closers.countP CPc.isStored = if s.closing then 1 else 0
  -- the wait group counts the commands between `wg.Add(1)` and `wg.Done`, and Serve's helper goroutine until
  -- its `wg.Done`
  wg : s.wg = s.workers.countP WPc.counted + (if s.helperDone then 0 else 1)
  -- the helper gets to its `wg.Done` only through the closed channel
  helper : s.helperDone = true → s.chanCloses ≥ 1
  -- what a closer read by `closing.Load` is still the value of `closing` while it holds the mutex; from its
  -- `close(closer)` on `closing` stays set
  cview : ∀ c ∈ s.closers, (c = .loaded false → s.closing = false) ∧ (c = .loaded true → s.closing = true) ∧
            (c = .closed ∨ c = .waiting ∨ c = .returned → s.closing = true)
  -- the same for `admit`, between its `closing.Load` and `mu.Unlock`
  wview : ∀ w ∈ s.workers, (w = .checked false ∨ w = .added → s.closing = false) ∧ (w = .checked true → s.closing = true)
  -- once a Close call has returned, no command is counted in the wait group
  final : .returned ∈ s.closers → s.workers.countP WPc.counted = 0

/-- the mutex equation, read from the side of a thread that is inside -/
theorem alone {a b : Nat} {l : Bool} (h : a + b = if l then 1 else 0) (ha : 0 < a) : l = true ∧ b = 0 := by
  cases l with
  | false => simp only [Bool.false_eq_true, if_false] at h; omega
  | true => simp only [if_true] at h; exact ⟨rfl, by omega⟩

theorem closer_alone (s : St) (hi : Inv s) (i : Nat) {pc : CPc} (h : s.closers[i]? = some pc) (hh : pc.holds = true) :
    s.lock = true ∧ s.workers.countP WPc.holds = 0 :=
  alone hi.mutex (countP_pos_of_mem _ _ pc (List.mem_of_getElem? h) hh)

theorem worker_alone (s : St) (hi : Inv s) (j : Nat) {pc : WPc} (h : s.workers[j]? = some pc) (hh : pc.holds = true) :
    s.lock = true ∧ s.closers.countP CPc.holds = 0 :=
  alone (Nat.add_comm _ _ ▸ hi.mutex) (countP_pos_of_mem _ _ pc (List.mem_of_getElem? h) hh)

theorem inv_init (nc nw : Nat) : Inv (init nc nw) := by
  refine ⟨?_, ?_, ?_, by simp [init], ?_, ?_, ?_⟩
  · simp [init, List.countP_replicate, CPc.holds, WPc.holds]
  · simp [init, List.countP_replicate, CPc.isStored]
  · simp [init, List.countP_replicate, WPc.counted]
  · intro c hc; simp [init] at hc; obtain ⟨_, rfl⟩ := hc; simp
  · intro w hw; simp [init] at hw; obtain ⟨_, rfl⟩ := hw; simp
  · intro h; simp [init] at h

structure SetC (s : St) (i : Nat) (old new : CPc) : Prop where
  holds : (s.closers.set i new).countP CPc.holds + (if old.holds then 1 else 0) = s.closers.countP CPc.holds + (if new.holds then 1 else 0)
  stored : (s.closers.set i new).countP CPc.isStored + (if old.isStored then 1 else 0) = s.closers.countP CPc.isStored + (if new.isStored then 1 else 0)

theorem setC (s : St) (i : Nat) (old new : CPc) (h : s.closers[i]? = some old) : SetC s i old new :=
  ⟨countP_set_add CPc.holds s.closers i old new h, countP_set_add CPc.isStored s.closers i old new h⟩

structure SetW (s : St) (j : Nat) (old new : WPc) : Prop where
  holds : (s.workers.set j new).countP WPc.holds + (if old.holds then 1 else 0) = s.workers.countP WPc.holds + (if new.holds then 1 else 0)
  counted : (s.workers.set j new).countP WPc.counted + (if old.counted then 1 else 0) = s.workers.countP WPc.counted + (if new.counted then 1 else 0)

theorem setW (s : St) (j : Nat) (old new : WPc) (h : s.workers[j]? = some old) : SetW s j old new :=
  ⟨countP_set_add WPc.holds s.workers j old new h, countP_set_add WPc.counted s.workers j old new h⟩

/-- what a closer whose program counter is `c` has seen of `closing` (the conjuncts of `Inv.cview`) -/
def CPc.View (c : CPc) (g : Bool) : Prop :=
  (c = .loaded false → g = false) ∧ (c = .loaded true → g = true) ∧ (c = .closed ∨ c = .waiting ∨ c = .returned → g = true)

/-- the same for a worker (`Inv.wview`) -/
def WPc.View (w : WPc) (g : Bool) : Prop :=
  (w = .checked false ∨ w = .added → g = false) ∧ (w = .checked true → g = true)

/-- Rule for one operation of closer `i` (`old ↦ new`) that leaves `closing` alone: the invariant
    survives if the operation balances the mutex and the channel counter against the change of
    program counter, what `new` has seen of `closing` follows from what `old` had, and the closer
    returns only when the wait group is at zero.  `closing.Store(true)` is not of this kind, see
    `inv_step`.  `hs` is the equation `step` leaves once the program counter is known, so
    that a case of `inv_step` is one application of the rule. -/
theorem Inv.closer_op {s s' : St} (hi : Inv s) {i : Nat} {old new : CPc} {lock' : Bool} {cc' : Nat}
    (hci : s.closers[i]? = some old)
    (hs : some { s with lock := lock', chanCloses := cc', closers := s.closers.set i new } = some s')
    (mutex : (if new.holds then 1 else 0) + (if s.lock then 1 else 0) = (if old.holds then 1 else 0) + (if lock' then 1 else 0))
    (chan : cc' = s.chanCloses + (if old.isStored then 1 else 0)) (notStored : new.isStored = false)
    (view : old.View s.closing → new.View s.closing)
    (returns : new = .returned → s.wg = 0) : Inv s' := by
  cases hs
  obtain ⟨c1, c2⟩ := setC s i old new hci
  have hm := hi.mutex
  have hc := hi.chan
  have hw := hi.wg
  simp only [notStored, Bool.false_eq_true, if_false] at c2
  refine ⟨?_, ?_, hw, fun hh => ?_, forall_mem_set hi.cview i (view (hi.cview _ (List.mem_of_getElem? hci))), hi.wview, fun hr => ?_⟩
  · simp only; omega
  · simp only; omega
  · have := hi.helper hh; simp only; omega
  · rcases List.mem_or_eq_of_mem_set hr with h | h
    · exact hi.final h
    · have := returns h.symm; simp only; omega

/-- Rule for one operation of worker `j` (`old ↦ new`); no worker operation writes `closing`.  As
    `Inv.closer_op`, with the wait group in place of the channel counter; a command is newly counted
    only by a worker that has read `closing` unset under the lock. -/
theorem Inv.worker_op {s s' : St} (hi : Inv s) {j : Nat} {old new : WPc} {lock' : Bool} {wg' : Nat}
    (hwj : s.workers[j]? = some old)
    (hs : some { s with lock := lock', wg := wg', workers := s.workers.set j new } = some s')
    (mutex : (if new.holds then 1 else 0) + (if s.lock then 1 else 0) = (if old.holds then 1 else 0) + (if lock' then 1 else 0))
    (wg : wg' = s.wg + (if new.counted then 1 else 0) - (if old.counted then 1 else 0))
    (view : old.View s.closing → new.View s.closing)
    (counts : new.counted = true → old.counted = true ∨ old = .checked false) : Inv s' := by
  cases hs
  obtain ⟨c1, c2⟩ := setW s j old new hwj
  have hm := hi.mutex
  have hw := hi.wg
  have hpos := ite_le_countP WPc.counted hwj
  have hold := hi.wview _ (List.mem_of_getElem? hwj)
  refine ⟨?_, hi.chan, ?_, hi.helper, hi.cview, forall_mem_set hi.wview j (view hold), fun hr => ?_⟩
  · simp only; omega
  · simp only; omega
  · have hf := hi.final hr
    simp only
    cases hn : new.counted with
    | false => simp only [hn, Bool.false_eq_true, if_false] at c2; omega
    | true =>
      rcases counts hn with ho | ho
      · simp only [hn, ho, if_true] at c2; omega
      · -- a closer has returned: then `closing` is set, but this worker read it unset under the lock
        have := (hi.cview _ hr).2.2 (Or.inr (Or.inr rfl))
        rw [hold.1 (Or.inl ho)] at this
        cases this

theorem inv_step (a : Act) (s s' : St) (hi : Inv s) (hs : step a s = some s') : Inv s' := by
  revert hs
  fun_cases step a s
  case case1 | case9 | case10 | case11 | case18 | case20 => nofun   -- not enabled
  case case2 i hci hl =>   -- Close: `mu.Lock`
    intro hs
    rw [Bool.not_eq_true] at hl
    exact hi.closer_op hci hs (mutex := by simp [CPc.holds, hl]) (chan := by simp [CPc.isStored]) (notStored := rfl)
      (view := by simp [CPc.View]) (returns := by simp)
  case case3 i hci =>   -- `closing.Load`
    intro hs
    exact hi.closer_op hci hs (mutex := by simp [CPc.holds]) (chan := by simp [CPc.isStored]) (notStored := rfl)
      (view := by simp [CPc.View]) (returns := by simp)
  case case4 i hci =>   -- `closing` was set: `mu.Unlock`
    intro hs
    have hlock := (closer_alone s hi i hci rfl).1
    exact hi.closer_op hci hs (mutex := by simp [CPc.holds, hlock]) (chan := by simp [CPc.isStored]) (notStored := rfl)
      (view := by simp [CPc.View]) (returns := by simp)
  case case5 i hci =>
    -- `closing.Store(true)`: everybody else is outside the critical section, and a thread
    -- outside holds no view that says `closing` is unset
    intro hs
    cases hs
    have hmem := List.mem_of_getElem? hci
    obtain ⟨hlock, hw0⟩ := closer_alone s hi i hci rfl
    obtain ⟨c1, c2⟩ := setC s i (.loaded false) .stored hci
    have hch := hi.chan
    rw [(hi.cview _ hmem).1 rfl] at hch
    have hm := hi.mutex
    simp only [CPc.holds, hlock, if_true] at c1 hm
    refine ⟨?_, ?_, hi.wg, hi.helper, ?_, ?_, fun hr => hi.final ((List.mem_or_eq_of_mem_set hr).resolve_right (by simp))⟩
    · simp only [hlock, if_true]; omega
    · simp only [CPc.isStored, Bool.false_eq_true, if_false, if_true] at c2 hch ⊢; omega
    · intro c hc
      refine ⟨?_, fun _ => rfl, fun _ => rfl⟩
      -- a closer at `loaded false` would be inside together with this one
      rintro rfl
      have hle : (s.closers.set i .stored).countP CPc.holds ≤ 1 := by omega
      cases eq_of_countP_le_one hle hc (List.mem_set (List.getElem?_eq_some_iff.mp hci).1 _) rfl rfl
    · intro w hw
      have := List.countP_eq_zero.mp hw0 w hw
      refine ⟨?_, ?_⟩
      · intro h; rcases h with rfl | rfl <;> simp [WPc.holds] at this
      · intro h; subst h; simp [WPc.holds] at this
  case case6 i hci =>
    -- `stored` is counted in `Inv.chan`, which leaves no room for it while `closing` is unset
    intro hs
    have hclosing : s.closing = true := by
      have hch := hi.chan
      have := countP_pos_of_mem CPc.isStored s.closers .stored (List.mem_of_getElem? hci) rfl
      cases hcl : s.closing with
      | true => rfl
      | false => simp only [hcl, Bool.false_eq_true, if_false] at hch; omega
    exact hi.closer_op hci hs (mutex := by simp [CPc.holds]) (chan := by simp [CPc.isStored]) (notStored := rfl)
      (view := by simp [CPc.View, hclosing]) (returns := by simp)
  case case7 i hci =>   -- `mu.Unlock` after `close(closer)`
    intro hs
    have hlock := (closer_alone s hi i hci rfl).1
    exact hi.closer_op hci hs (mutex := by simp [CPc.holds, hlock]) (chan := by simp [CPc.isStored]) (notStored := rfl)
      (view := by simp [CPc.View]) (returns := by simp)
  case case8 i hci hwg =>   -- `wg.Wait` returns
    intro hs
    exact hi.closer_op hci hs (mutex := by simp [CPc.holds]) (chan := by simp [CPc.isStored]) (notStored := rfl)
      (view := by simp [CPc.View]) (returns := fun _ => hwg)
  case case12 j hwj hl =>   -- admit: `mu.Lock`
    intro hs
    rw [Bool.not_eq_true] at hl
    exact hi.worker_op hwj hs (mutex := by simp [WPc.holds, hl]) (wg := by simp [WPc.counted])
      (view := by simp [WPc.View]) (counts := by simp [WPc.counted])
  case case13 j hwj =>   -- `closing.Load`
    intro hs
    exact hi.worker_op hwj hs (mutex := by simp [WPc.holds]) (wg := by simp [WPc.counted])
      (view := by simp [WPc.View]) (counts := by simp [WPc.counted])
  case case14 j hwj =>   -- refused: `mu.Unlock`
    intro hs
    have hlock := (worker_alone s hi j hwj rfl).1
    exact hi.worker_op hwj hs (mutex := by simp [WPc.holds, hlock]) (wg := by simp [WPc.counted])
      (view := by simp [WPc.View]) (counts := by simp [WPc.counted])
  case case15 j hwj =>   -- `wg.Add(1)`
    intro hs
    exact hi.worker_op hwj hs (mutex := by simp [WPc.holds]) (wg := by simp [WPc.counted])
      (view := by simp [WPc.View]) (counts := fun _ => Or.inr rfl)
  case case16 j hwj =>   -- admitted: `mu.Unlock`
    intro hs
    have hlock := (worker_alone s hi j hwj rfl).1
    exact hi.worker_op hwj hs (mutex := by simp [WPc.holds, hlock]) (wg := by simp [WPc.counted])
      (view := by simp [WPc.View]) (counts := fun _ => Or.inl rfl)
  case case17 j hwj =>   -- `wg.Done`
    intro hs
    exact hi.worker_op hwj hs (mutex := by simp [WPc.holds]) (wg := by simp [WPc.counted])
      (view := by simp [WPc.View]) (counts := by simp [WPc.counted])
  case case19 h =>   -- the helper's `wg.Done`
    intro hs
    cases hs
    have hwg := hi.wg
    have hd : s.helperDone = false := by simpa using h.2
    rw [hd] at hwg
    refine ⟨hi.mutex, hi.chan, ?_, fun _ => h.1, hi.cview, hi.wview, hi.final⟩
    simp only [Bool.false_eq_true, if_false, if_true] at hwg ⊢
    omega

theorem inv_run (sched : List Act) : ∀ s, Inv s → Inv (run sched s) :=
  run_preserves step inv_step sched

/-- **never a double close**, at the level of individual operations: the closer channel is
    closed at most once under every interleaving of any number of closers and workers -/
theorem F_no_double_close (nc nw : Nat) (sched : List Act) : (run sched (init nc nw)).chanCloses ≤ 1 := by
  have := (inv_run sched _ (inv_init nc nw)).chan
  split at this <;> omega

/-- **mutual exclusion**: at most one thread is between `mu.Lock` and `mu.Unlock` -/
theorem F_mutex (nc nw : Nat) (sched : List Act) :
    (run sched (init nc nw)).closers.countP CPc.holds + (run sched (init nc nw)).workers.countP WPc.holds ≤ 1 := by
  have := (inv_run sched _ (inv_init nc nw)).mutex
  split at this <;> omega

/-- **Close waits**: `wg.Wait` lets a Close call return only when no admitted command is
    unfinished and the listener has been closed -/
theorem F_waits (s s' : St) (i : Nat) (hi : Inv s) (hpc : s.closers[i]? = some .waiting)
    (hs : step (.closer i) s = some s') : s.workers.countP WPc.counted = 0 ∧ s.helperDone = true := by
  simp only [step, hpc] at hs
  by_cases hz : s.wg = 0
  · have := hi.wg
    rw [hz] at this
    constructor
    · omega
    · by_cases hd : s.helperDone = true
      · exact hd
      · simp [hd] at this
  · simp [hz] at hs

theorem returned_mono (a : Act) (s s' : St) (hs : step a s = some s') (hr : CPc.returned ∈ s.closers) :
    CPc.returned ∈ s'.closers := by
  revert hs
  fun_cases step a s
  case case1 | case9 | case10 | case11 | case18 | case20 => nofun   -- not enabled
  -- the closer that moves has not returned, so the one that has is still there
  case case2 i h _ | case3 i h | case4 i h | case5 i h | case6 i h | case7 i h | case8 i h _ =>
    intro hs
    cases hs
    exact mem_set_of_ne h (by decide) hr _
  -- the workers and the helper leave the closers alone
  all_goals
    intro hs
    cases hs
    exact hr

/-- **Close is final**: once any Close call has returned, under every continuation of the
    schedule no command is ever admitted or running again — whatever operation of `admit` the other
    goroutines were in the middle of when Close returned -/
theorem F_final (sched : List Act) : ∀ (s : St), Inv s → CPc.returned ∈ s.closers →
    (run sched s).workers.countP WPc.counted = 0 := by
  intro s hi hr
  -- "some Close call has returned" is stable (`returned_mono`): it still holds, with the invariant, at the end
  have h := run_preserves step (P := fun s => Inv s ∧ CPc.returned ∈ s.closers)
    (fun a s s' h hs => ⟨inv_step a s s' h.1 hs, returned_mono a s s' hs h.2⟩) sched s ⟨hi, hr⟩
  exact h.1.final h.2

/-- non-vacuity: the schedule that breaks a check-then-act version of `admit` — a worker is past
    its closing check when a whole Close runs — cannot happen here: the closer blocks on the mutex -/
example :
    let s := run [.worker 0, .worker 0, .closer 0, .closer 0, .worker 0, .worker 0, .closer 0, .closer 0,
      .closer 0, .closer 0, .closer 0, .helper, .closer 0, .worker 0, .closer 0] (init 1 1)
    s.closers = [.returned] ∧ s.workers = [.finished] ∧ s.chanCloses = 1 ∧ s.wg = 0 := by decide

/-- no operation between `mu.Lock` and `mu.Unlock` blocks: at each program counter inside the section
    `step` is defined without a condition -/
theorem closer_in_section_can_step (s : St) (k : Nat) (pc : CPc) (h : s.closers[k]? = some pc) (hh : pc.holds = true) :
    (step (.closer k) s).isSome = true := by
  cases pc with
  | start | waiting | returned => cases hh   -- outside the section
  | locked | stored | closed => simp [step, h]
  | loaded b => cases b <;> simp [step, h]

theorem worker_in_section_can_step (s : St) (k : Nat) (pc : WPc) (h : s.workers[k]? = some pc) (hh : pc.holds = true) :
    (step (.worker k) s).isSome = true := by
  cases pc with
  | start | running | finished | refused => cases hh   -- outside the section
  | locked | added => simp [step, h]
  | checked b => cases b <;> simp [step, h]

/-- **no deadlock**: as long as some Close call has not returned, some thread can execute its next
    operation — the mutex is always released again, `wg.Wait` is always eventually enabled -/
theorem F_no_deadlock (s : St) (hi : Inv s)
    (hpend : ∃ (i : Nat) (pc : CPc), s.closers[i]? = some pc ∧ pc ≠ CPc.returned) :
    ∃ a, (step a s).isSome = true := by
  obtain ⟨i, pc, hpc, hne⟩ := hpend
  -- whoever holds the mutex can go on
  have holder : s.lock = true → ∃ a, (step a s).isSome = true := by
    intro hl
    have hm := hi.mutex
    rw [hl] at hm
    simp only [if_true] at hm
    by_cases hc : 0 < s.closers.countP CPc.holds
    · obtain ⟨k, x, hk, hp⟩ := index_of_countP_pos hc
      exact ⟨.closer k, closer_in_section_can_step s k x hk hp⟩
    · have : 0 < s.workers.countP WPc.holds := by omega
      obtain ⟨k, x, hk, hp⟩ := index_of_countP_pos this
      exact ⟨.worker k, worker_in_section_can_step s k x hk hp⟩
  cases hl : s.lock with
  | true => exact holder hl
  | false =>
    cases pc with
    | returned => exact absurd rfl hne
    | start => exact ⟨.closer i, by simp [step, hpc, hl]⟩
    | locked => exact ⟨.closer i, closer_in_section_can_step s i _ hpc rfl⟩
    | loaded b => exact ⟨.closer i, closer_in_section_can_step s i _ hpc rfl⟩
    | stored => exact ⟨.closer i, closer_in_section_can_step s i _ hpc rfl⟩
    | closed => exact ⟨.closer i, closer_in_section_can_step s i _ hpc rfl⟩
    | waiting =>
      by_cases hz : s.wg = 0
      · exact ⟨.closer i, by simp [step, hpc, hz]⟩
      · have hcg : s.closing = true := (hi.cview _ (List.mem_of_getElem? hpc)).2.2 (Or.inr (Or.inl rfl))
        have hm := hi.mutex
        rw [hl] at hm
        simp only [Bool.false_eq_true, if_false] at hm
        by_cases hd : s.helperDone = true
        · have hw := hi.wg
          simp only [hd, if_true, Nat.add_zero] at hw
          have hpos : 0 < s.workers.countP WPc.counted := by omega
          obtain ⟨k, x, hk, hp⟩ := index_of_countP_pos hpos
          cases x <;> simp [WPc.counted] at hp
          · -- `added` would hold the mutex, which is free
            have := countP_pos_of_mem WPc.holds s.workers .added (List.mem_of_getElem? hk) rfl
            omega
          · exact ⟨.worker k, by simp [step, hk]⟩
        · have hch := hi.chan
          simp only [hcg, if_true] at hch
          by_cases hst : 0 < s.closers.countP CPc.isStored
          · obtain ⟨k, x, hk, hp⟩ := index_of_countP_pos hst
            cases x <;> simp [CPc.isStored] at hp
            have := countP_pos_of_mem CPc.holds s.closers .stored (List.mem_of_getElem? hk) rfl
            omega
          · simp only [Bool.not_eq_true] at hd
            exact ⟨.helper, by simp [step, hd]; omega⟩

end Pw.ConcF
