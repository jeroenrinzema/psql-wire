import Pw.Props.C13
import Pw.Spec.CopyFlat
/-
  C14 — binary COPY rows decode to what was sent, however the stream is chunked.

  The reader (`binFill` / `binTake` / … / `binRead`) pulls CopyData messages on demand.  The
  theorems relate it to a decoder that works on the CONCATENATED stream, for every way of
  cutting that stream into CopyData messages.
-/
namespace Pw.Props.C14
open Pw.Spec

/-- the COPY data stream as the client sends it: CopyData messages, then CopyDone -/
def streamItems (chunks : List Bytes) (rest : List Item) : List Item :=
  chunks.map (Item.msg (ch 'd')) ++ Item.msg (ch 'c') [] :: rest

/-- what the reader state stands for: the bytes of the stream not yet decoded -/
inductive Rel : Bin → Inp → Bytes → List Item → Prop where
  | live (b : Bin) (i : Inp) (chunks : List Bytes) (rest : List Item)
      (hd : b.done = false) (hi : i.items = streamItems chunks rest) :
      Rel b i (b.pending ++ chunks.flatten) rest
  | ended (b : Bin) (i : Inp) (rest : List Item) (hd : b.done = true) (hi : i.items = rest) :
      Rel b i b.pending rest

theorem copyRead_data (i : Inp) (c : Bytes) (cs : List Bytes) (rest : List Item) (fuel : Nat)
    (hi : i.items = streamItems (c :: cs) rest) :
    copyRead (fuel + 1) i = (some (.data c), { i with items := streamItems cs rest, msg := c }) := by
  have : i.items = .msg (ch 'd') c :: streamItems cs rest := by simpa [streamItems] using hi
  exact C13.C13_data i c _ fuel this

theorem copyRead_done (i : Inp) (rest : List Item) (fuel : Nat)
    (hi : i.items = streamItems [] rest) :
    copyRead (fuel + 1) i = (some .eof, { i with items := rest, msg := [] }) := by
  have : i.items = .msg (ch 'c') [] :: rest := by simpa [streamItems] using hi
  exact C13.C13_done i [] _ fuel this

/-- **fill**: whatever the chunking, `fill n` succeeds exactly when the remaining stream has
    at least `n` bytes, it never loses or reorders a byte, and afterwards the first `n` bytes
    are buffered -/
theorem fill_spec (n : Nat) : ∀ (chunks : List Bytes) (b : Bin) (i : Inp) (rest : List Item) (fuel : Nat),
    b.done = false → i.items = streamItems chunks rest → chunks.length + 1 ≤ fuel →
    ∃ b' i', binFill n fuel b i =
        (if n ≤ (b.pending ++ chunks.flatten).length then FillRes.ok else FillRes.eof, b', i') ∧
      Rel b' i' (b.pending ++ chunks.flatten) rest ∧
      (n ≤ (b.pending ++ chunks.flatten).length → n ≤ b'.pending.length) ∧
      (¬ n ≤ (b.pending ++ chunks.flatten).length → b'.pending = b.pending ++ chunks.flatten) ∧
      b'.started = b.started ∧ b'.oids = b.oids ∧ i'.L = i.L ∧ i'.unsup = i.unsup ∧ i'.tail = i.tail := by
  intro chunks
  induction chunks with
  | nil =>
    intro b i rest fuel hd hi hf
    obtain ⟨fuel, rfl⟩ : ∃ f, fuel = f + 1 := ⟨fuel - 1, by omega⟩
    rw [List.flatten_nil, List.append_nil]
    by_cases hn : n ≤ b.pending.length
    · rw [binFill_enough i hn, if_pos hn]
      have hr := Rel.live b i [] rest hd hi
      rw [List.flatten_nil, List.append_nil] at hr
      exact ⟨b, i, rfl, hr, fun _ => hn, fun h => absurd hn h, rfl, rfl, rfl, rfl, rfl⟩
    · rw [binFill_eof hn hd (copyRead_done i rest _ hi), if_neg hn]
      exact ⟨_, _, rfl, Rel.ended _ _ rest rfl rfl, fun h => absurd h hn, fun _ => rfl, rfl, rfl, rfl, rfl, rfl⟩
  | cons c cs ih =>
    intro b i rest fuel hd hi hf
    obtain ⟨fuel, rfl⟩ : ∃ f, fuel = f + 1 := ⟨fuel - 1, by omega⟩
    by_cases hn : n ≤ b.pending.length
    · have hn2 : n ≤ (b.pending ++ (c :: cs).flatten).length := by rw [List.length_append]; omega
      rw [binFill_enough i hn, if_pos hn2]
      exact ⟨b, i, rfl, Rel.live b i (c :: cs) rest hd hi, fun _ => hn, fun h => absurd hn2 h, rfl, rfl, rfl, rfl, rfl⟩
    · rw [binFill_data hn hd (copyRead_data i c cs rest _ hi), List.flatten_cons, ← List.append_assoc]
      exact ih { b with pending := b.pending ++ c } { i with items := streamItems cs rest, msg := [] } rest fuel hd rfl
        (by simp at hf; omega)

/-- what the readers leave unchanged -/
def Same (b : Bin) (i : Inp) (b' : Bin) (i' : Inp) : Prop :=
  b'.started = b.started ∧ b'.oids = b.oids ∧ i'.L = i.L ∧ i'.unsup = i.unsup ∧ i'.tail = i.tail

theorem Same.refl (b : Bin) (i : Inp) : Same b i b i := ⟨rfl, rfl, rfl, rfl, rfl⟩

theorem Same.trans {b i b1 i1 b2 i2} (h1 : Same b i b1 i1) (h2 : Same b1 i1 b2 i2) : Same b i b2 i2 :=
  ⟨h2.1.trans h1.1, h2.2.1.trans h1.2.1, h2.2.2.1.trans h1.2.2.1, h2.2.2.2.1.trans h1.2.2.2.1,
   h2.2.2.2.2.trans h1.2.2.2.2⟩

/-- `fill` in terms of the remaining stream only -/
theorem fill_rel (n : Nat) (b : Bin) (i : Inp) (V : Bytes) (rest : List Item) (hr : Rel b i V rest) :
    ∃ b' i', binFill n (binFuel i) b i = (if n ≤ V.length then FillRes.ok else FillRes.eof, b', i') ∧
      Rel b' i' V rest ∧ (n ≤ V.length → n ≤ b'.pending.length) ∧
      (¬ n ≤ V.length → b'.pending = V) ∧ Same b i b' i' := by
  cases hr with
  | live chunks _ hd hi =>
    have hf : chunks.length + 1 ≤ binFuel i := by
      simp [binFuel, hi, streamItems]; omega
    exact fill_spec n chunks b i rest (binFuel i) hd hi hf
  | ended _ hd hi =>
    refine ⟨b, i, ?_, Rel.ended b i rest hd hi, fun h => h, fun _ => rfl, Same.refl b i⟩
    by_cases hn : n ≤ b.pending.length
    · rw [binFuel, binFill_enough i hn, if_pos hn]
    · rw [binFuel, binFill_done i hn hd, if_neg hn]

theorem Rel.advance {b : Bin} {i : Inp} {V : Bytes} {rest : List Item} (hr : Rel b i V rest)
    (n : Nat) (hn : n ≤ b.pending.length) :
    b.pending.take n = V.take n ∧ Rel { b with pending := b.pending.drop n } i (V.drop n) rest := by
  cases hr with
  | live chunks _ hd hi =>
    constructor
    · rw [List.take_append_of_le_length hn]
    · rw [List.drop_append_of_le_length hn]
      exact Rel.live { b with pending := b.pending.drop n } i chunks rest hd hi
  | ended _ hd hi => exact ⟨rfl, Rel.ended { b with pending := b.pending.drop n } i rest hd hi⟩

/-- What a reader step returned from `(b, i)` TRACKS what the flat decoder returned on the stream that
    `(b, i)` stands for: the same outcome and, on success, a state that stands for the flat remainder.
    `ok`/`err` embed the flat outcome in the step's own result type; `un` is the step's answer to a flat
    `unsupported` (`none`: the flat function never gives one).

    Every layer below is proved in this form: with the reader's and the flat decoder's results both
    generalised, `cases` on it puts the two in constructor form at once, and the `match`es of the next
    layer up reduce on both sides. -/
inductive Tracks {R α : Type} (ok : α → R) (err : OpErr → R) (un : Option R)
    (b : Bin) (i : Inp) (rest : List Item) : R × Bin × Inp → FRes α → Prop
  | ok {a : α} {V' : Bytes} {b' : Bin} {i' : Inp} (hr : Rel b' i' V' rest) (hs : Same b i b' i') :
      Tracks ok err un b i rest (ok a, b', i') (.ok a V')
  | err {e : OpErr} {b' : Bin} {i' : Inp} : Tracks ok err un b i rest (err e, b', i') (.err e)
  | unsup {u : R} {b' : Bin} {i' : Inp} (hu : un = some u) : Tracks ok err un b i rest (u, b', i') .unsupported

/-- the same for a whole row -/
inductive TracksRow (b : Bin) (i : Inp) (rest : List Item) : Option BinRes × Bin × Inp → FRow → Prop
  | row {vals : List Val} {V' : Bytes} {b' : Bin} {i' : Inp} (hr : Rel b' i' V' rest) (hs : Same b i b' i') :
      TracksRow b i rest (some (.row vals), b', i') (.row vals V')
  | eof {b' : Bin} {i' : Inp} : TracksRow b i rest (some .eof, b', i') .eof
  | err {e : OpErr} {b' : Bin} {i' : Inp} : TracksRow b i rest (some (.err e), b', i') (.err e)
  | unsup {b' : Bin} {i' : Inp} : TracksRow b i rest (some (.err .pgxDec), b', i') .unsupported

theorem Tracks.after {R α : Type} {ok : α → R} {err : OpErr → R} {un : Option R} {b i rest b1 i1 x y}
    (hs : Same b i b1 i1) (h : Tracks ok err un b1 i1 rest x y) : Tracks ok err un b i rest x y := by
  cases h with
  | ok hr hs' => exact .ok hr (hs.trans hs')
  | err => exact .err
  | unsup hu => exact .unsup hu

theorem TracksRow.after {b i rest b1 i1 x y} (hs : Same b i b1 i1) (h : TracksRow b1 i1 rest x y) :
    TracksRow b i rest x y := by
  cases h with
  | row hr hs' => exact .row hr (hs.trans hs')
  | eof => exact .eof
  | err => exact .err
  | unsup => exact .unsup

section
variable {b : Bin} {i : Inp} {V : Bytes} {rest : List Item}

theorem take_tracks (n : Nat) (hr : Rel b i V rest) :
    Tracks .ok .err none b i rest (binTake n b i) (fTake n V) := by
  obtain ⟨b1, i1, h1, h2, h3, -, h5⟩ := fill_rel n b i V rest hr
  unfold fTake binTake
  rw [h1]
  by_cases hn : n ≤ V.length
  · rw [if_pos hn, if_pos hn, ← (h2.advance n (h3 hn)).1]
    exact .ok (h2.advance n (h3 hn)).2 h5
  · rw [if_neg hn, if_neg hn]
    exact .err

theorem takeLength_tracks (hr : Rel b i V rest) :
    Tracks .ok .err none b i rest (binTakeLength b i) (fTakeLength i.L V) := by
  have ht := take_tracks 4 hr
  unfold fTakeLength binTakeLength
  generalize binTake 4 b i = x, fTake 4 V = y at ht
  cases ht with
  | unsup hu => nomatch hu
  | err => exact .err
  | @ok v V1 b1 i1 hr1 hs1 =>
    dsimp only
    rw [hs1.2.2.1]
    cases rd32 v with
    | none => exact .err
    | some p =>
      dsimp only
      by_cases hc : p.1 ≠ 4294967295 ∧ p.1 > i.L
      · rw [if_pos hc, if_pos hc]
        exact .err
      · rw [if_neg hc, if_neg hc]
        exact .ok hr1 hs1

theorem fields_tracks : ∀ (oids : List Nat) {b : Bin} {i : Inp} {V : Bytes} {rest : List Item}, Rel b i V rest →
    Tracks .ok .err (some .unsupported) b i rest (binFields oids b i) (fFields i.L oids V)
  | [], b, i, V, rest, hr => .ok hr (Same.refl b i)
  | oid :: oids, b, i, V, rest, hr => by
    have hl := takeLength_tracks hr
    unfold fFields binFields
    generalize binTakeLength b i = x, fTakeLength i.L V = y at hl
    cases hl with
    | unsup hu => nomatch hu
    | err => exact .err
    | @ok len V1 b1 i1 hr1 hs1 =>
      dsimp only
      split
      · have hf := (fields_tracks oids hr1).after hs1
        rw [hs1.2.2.1] at hf
        generalize binFields oids b1 i1 = x, fFields i.L oids V1 = y at hf
        cases hf with
        | ok hr2 hs2 => exact .ok hr2 hs2
        | err => exact .err
        | unsup hu => cases hu; exact .unsup rfl
      · have ht := take_tracks len hr1
        generalize binTake len b1 i1 = x, fTake len V1 = y at ht
        cases ht with
        | unsup hu => nomatch hu
        | err => exact .err
        | @ok v V2 b2 i2 hr2 hs2 =>
          dsimp only
          cases decodeVal oid 1 (some v) with
          | unsupported => exact .unsup rfl
          | err => exact .err
          | ok val =>
            dsimp only
            have hf := (fields_tracks oids hr2).after (hs1.trans hs2)
            rw [(hs1.trans hs2).2.2.1] at hf
            generalize binFields oids b2 i2 = x, fFields i.L oids V2 = y at hf
            cases hf with
            | ok hr3 hs3 => exact .ok hr3 hs3
            | err => exact .err
            | unsup hu => cases hu; exact .unsup rfl

theorem rowBody_tracks (hr : Rel b i V rest) :
    TracksRow b i rest (binRowBody b i) (fRowBody i.L b.oids V) := by
  have ht := take_tracks 2 hr
  unfold binRowBody fRowBody
  generalize binTake 2 b i = x, fTake 2 V = y at ht
  cases ht with
  | unsup hu => nomatch hu
  | err => exact .err
  | @ok v V1 b1 i1 hr1 hs1 =>
    dsimp only
    rw [hs1.2.1]
    split
    · obtain ⟨b2, i2, hf, -, -, -, -⟩ := fill_rel 1 b1 i1 V1 rest hr1
      rw [hf]
      cases V1 with
      | nil => exact .eof
      | cons c V1 =>
        rw [if_pos (by simp), if_neg (by simp)]
        exact .err
    · split
      · exact .err
      · have hf := fields_tracks b.oids hr1
        rw [hs1.2.2.1] at hf
        generalize binFields b.oids b1 i1 = x, fFields i.L b.oids V1 = y at hf
        cases hf with
        | ok hr2 hs2 => exact .row hr2 (hs1.trans hs2)
        | err => exact .err
        | unsup hu => cases hu; exact .unsup

theorem row_tracks (hr : Rel b i V rest) :
    TracksRow b i rest (binRowStart b i) (fRow i.L b.oids V) := by
  obtain ⟨b1, i1, hf, hr1, -, h4, hs1⟩ := fill_rel 2 b i V rest hr
  have hb := (rowBody_tracks hr1).after hs1
  rw [hs1.2.1, hs1.2.2.1] at hb
  unfold binRowStart fRow
  rw [hf]
  by_cases h2 : 2 ≤ V.length
  · rw [if_pos h2, if_neg (by intro h; subst h; simp at h2)]
    exact hb
  · -- fewer than two bytes are left and all of them are buffered: end of data exactly when none is
    rw [if_neg h2]
    dsimp only
    rw [h4 h2]
    cases V with
    | nil => exact .eof
    | cons c V => exact hb

theorem headerRest_tracks (hr : Rel b i V rest) :
    Tracks (fun _ => .ok) .err none b i rest (binHeaderRest b i) (fHeaderRest i.L V) := by
  have ht := take_tracks (copySignature.length + 4) hr
  unfold binHeaderRest fHeaderRest
  generalize binTake (copySignature.length + 4) b i = x, fTake (copySignature.length + 4) V = y at ht
  cases ht with
  | unsup hu => nomatch hu
  | err => exact .err
  | @ok v V1 b1 i1 hr1 hs1 =>
    dsimp only
    have hl := (takeLength_tracks hr1).after hs1
    rw [hs1.2.2.1] at hl
    generalize binTakeLength b1 i1 = x, fTakeLength i.L V1 = y at hl
    cases hl with
    | unsup hu => nomatch hu
    | err => exact .err
    | @ok ext V2 b2 i2 hr2 hs2 =>
      dsimp only
      split
      · exact .err
      · have ht := (take_tracks ext hr2).after hs2
        generalize binTake ext b2 i2 = x, fTake ext V2 = y at ht
        cases ht with
        | unsup hu => nomatch hu
        | err => exact .err
        | @ok w V3 b3 i3 hr3 hs3 => exact .ok hr3 hs3

theorem skipHeader_tracks (hr : Rel b i V rest) :
    Tracks (fun _ => .ok) .err none b i rest (binSkipHeader b i) (fSkipHeader i.L V) := by
  obtain ⟨b1, i1, hf, hr1, h3, h4, hs1⟩ := fill_rel copySignature.length b i V rest hr
  have hpre : b1.pending.take copySignature.length = V.take copySignature.length := by
    by_cases hn : copySignature.length ≤ V.length
    · exact (hr1.advance _ (h3 hn)).1
    · rw [h4 hn]
  have hstep : binSkipHeader b i = binHeaderCheck b1 i1 := by
    unfold binSkipHeader
    rw [hf]
    by_cases hn : copySignature.length ≤ V.length
    · rw [if_pos hn]
    · rw [if_neg hn]
  have hh := (headerRest_tracks hr1).after hs1
  rw [hs1.2.2.1] at hh
  rw [hstep]
  unfold binHeaderCheck fSkipHeader
  rw [hpre]
  split
  · exact .ok hr1 hs1
  · exact hh

end

/-- **take**: the reader's `take n` is the flat stream's `take n`, for every chunking -/
theorem take_sim (n : Nat) (b : Bin) (i : Inp) (V : Bytes) (rest : List Item) (hr : Rel b i V rest) :
    match fTake n V with
    | .ok v V' => ∃ b' i', binTake n b i = (.ok v, b', i') ∧ Rel b' i' V' rest ∧ Same b i b' i'
    | .err e => ∃ b' i', binTake n b i = (.err e, b', i')
    | .unsupported => False := by
  have h := take_tracks n hr
  generalize binTake n b i = x, fTake n V = y at h
  cases h with
  | ok hr hs => exact ⟨_, _, rfl, hr, hs⟩
  | err => exact ⟨_, _, rfl⟩
  | unsup hu => nomatch hu

theorem takeLength_sim (b : Bin) (i : Inp) (V : Bytes) (rest : List Item) (hr : Rel b i V rest) :
    match fTakeLength i.L V with
    | .ok n V' => ∃ b' i', binTakeLength b i = (.ok n, b', i') ∧ Rel b' i' V' rest ∧ Same b i b' i'
    | .err e => ∃ b' i', binTakeLength b i = (.err e, b', i')
    | .unsupported => False := by
  have h := takeLength_tracks hr
  generalize binTakeLength b i = x, fTakeLength i.L V = y at h
  cases h with
  | ok hr hs => exact ⟨_, _, rfl, hr, hs⟩
  | err => exact ⟨_, _, rfl⟩
  | unsup hu => nomatch hu

/-- **fields**: the field loop decodes exactly what the flat decoder decodes -/
theorem fields_sim : ∀ (oids : List Nat) (b : Bin) (i : Inp) (V : Bytes) (rest : List Item), Rel b i V rest →
    match fFields i.L oids V with
    | .ok vals V' => ∃ b' i', binFields oids b i = (.ok vals, b', i') ∧ Rel b' i' V' rest ∧ Same b i b' i'
    | .err e => ∃ b' i', binFields oids b i = (.err e, b', i')
    | .unsupported => ∃ b' i', binFields oids b i = (.unsupported, b', i') := by
  intro oids b i V rest hr
  have h := fields_tracks oids hr
  generalize binFields oids b i = x, fFields i.L oids V = y at h
  cases h with
  | ok hr hs => exact ⟨_, _, rfl, hr, hs⟩
  | err => exact ⟨_, _, rfl⟩
  | unsup hu => cases hu; exact ⟨_, _, rfl⟩

/-- **one row**: for every chunking, reading a row (header already handled) returns what the
    flat decoder returns on the remaining stream: the row, end-of-data (at a row boundary or at
    the trailer), or an error — a wrong field count, a truncated field, data after the trailer -/
theorem row_sim (b : Bin) (i : Inp) (V : Bytes) (rest : List Item) (hr : Rel b i V rest) :
    match fRow i.L b.oids V with
    | .row vals V' => ∃ b' i', binRowStart b i = (some (.row vals), b', i') ∧ Rel b' i' V' rest ∧ Same b i b' i'
    | .eof => ∃ b' i', binRowStart b i = (some .eof, b', i')
    | .err e => ∃ b' i', binRowStart b i = (some (.err e), b', i')
    | .unsupported => ∃ b' i', binRowStart b i = (some (.err .pgxDec), b', i') := by
  have h := row_tracks hr
  generalize binRowStart b i = x, fRow i.L b.oids V = y at h
  cases h with
  | row hr hs => exact ⟨_, _, rfl, hr, hs⟩
  | eof => exact ⟨_, _, rfl⟩
  | err => exact ⟨_, _, rfl⟩
  | unsup => exact ⟨_, _, rfl⟩

/-- **header**: recognised (and skipped, extension area included) exactly when the stream
    starts with the signature — wherever the CopyData boundaries fall, e.g. a header sent in a
    message of its own or cut in the middle of the signature -/
theorem skipHeader_sim (b : Bin) (i : Inp) (V : Bytes) (rest : List Item) (hr : Rel b i V rest) :
    match fSkipHeader i.L V with
    | .ok _ V' => ∃ b' i', binSkipHeader b i = (.ok, b', i') ∧ Rel b' i' V' rest ∧ Same b i b' i'
    | .err e => ∃ b' i', binSkipHeader b i = (.err e, b', i')
    | .unsupported => False := by
  have h := skipHeader_tracks hr
  generalize binSkipHeader b i = x, fSkipHeader i.L V = y at h
  cases h with
  | ok hr hs => exact ⟨_, _, rfl, hr, hs⟩
  | err => exact ⟨_, _, rfl⟩
  | unsup hu => nomatch hu

/-- the reader state a handler starts with, for a given chunking of the COPY stream -/
def startState (oids : List Nat) : Bin := { oids := oids }

/-- the flat decoder's first `Read`: header, then a row -/
def fFirst (L : Nat) (oids : List Nat) (V : Bytes) : FRow :=
  match fSkipHeader L V with
  | .ok _ V' => fRow L oids V'
  | .err e => .err (wrapOp "unexpected header: " e)
  | .unsupported => .unsupported

theorem read_tracks {b : Bin} {i : Inp} {V : Bytes} {rest : List Item} (hr : Rel b i V rest) :
    TracksRow { b with started := true } i rest (binRead b i)
      (if b.started then fRow i.L b.oids V else fFirst i.L b.oids V) := by
  unfold binRead
  cases hst : b.started with
  | true =>
    have hb : { b with started := true } = b := by rw [← hst]
    rw [hb]
    exact row_tracks hr
  | false =>
    have hr0 : Rel { b with started := true } i V rest := by
      cases hr with
      | live chunks _ hd hi => exact Rel.live { b with started := true } i chunks rest hd hi
      | ended _ hd hi => exact Rel.ended { b with started := true } i rest hd hi
    have hh := skipHeader_tracks hr0
    rw [if_neg (by simp), if_neg (by simp)]
    unfold fFirst
    generalize binSkipHeader { b with started := true } i = x, fSkipHeader i.L V = y at hh
    cases hh with
    | unsup hu => nomatch hu
    | err => exact .err
    | @ok u V1 b1 i1 hr1 hs1 =>
      have hrow := (row_tracks hr1).after hs1
      rw [hs1.2.1, hs1.2.2.1] at hrow
      exact hrow

/-- **C14 (first Read).** For every chunking of the stream, the first `Read` (which deals with
    the optional header) returns what the flat decoder returns on the concatenated stream -/
theorem first_sim (b : Bin) (i : Inp) (V : Bytes) (rest : List Item) (hr : Rel b i V rest)
    (hst : b.started = false) :
    match fFirst i.L b.oids V with
    | .row vals V' => ∃ b' i', binRead b i = (some (.row vals), b', i') ∧ Rel b' i' V' rest ∧
        b'.started = true ∧ b'.oids = b.oids ∧ i'.L = i.L
    | .eof => ∃ b' i', binRead b i = (some .eof, b', i')
    | .err e => ∃ b' i', binRead b i = (some (.err e), b', i')
    | .unsupported => ∃ b' i', binRead b i = (some (.err .pgxDec), b', i') := by
  have h := read_tracks hr
  rw [hst, if_neg (by simp)] at h
  generalize binRead b i = x, fFirst i.L b.oids V = y at h
  cases h with
  | row hr hs => exact ⟨_, _, rfl, hr, hs.1, hs.2.1, hs.2.2.1⟩
  | eof => exact ⟨_, _, rfl⟩
  | err => exact ⟨_, _, rfl⟩
  | unsup => exact ⟨_, _, rfl⟩

/-- **C14 (later Reads).** -/
theorem later_sim (b : Bin) (i : Inp) (V : Bytes) (rest : List Item) (hr : Rel b i V rest)
    (hst : b.started = true) :
    match fRow i.L b.oids V with
    | .row vals V' => ∃ b' i', binRead b i = (some (.row vals), b', i') ∧ Rel b' i' V' rest ∧
        b'.started = true ∧ b'.oids = b.oids ∧ i'.L = i.L
    | .eof => ∃ b' i', binRead b i = (some .eof, b', i')
    | .err e => ∃ b' i', binRead b i = (some (.err e), b', i')
    | .unsupported => ∃ b' i', binRead b i = (some (.err .pgxDec), b', i') := by
  have h := read_tracks hr
  rw [hst, if_pos rfl] at h
  generalize binRead b i = x, fRow i.L b.oids V = y at h
  cases h with
  | row hr hs => exact ⟨_, _, rfl, hr, hs.1, hs.2.1, hs.2.2.1⟩
  | eof => exact ⟨_, _, rfl⟩
  | err => exact ⟨_, _, rfl⟩
  | unsup => exact ⟨_, _, rfl⟩

/-- **C14 (chunking independence).** Two reader states that stand for the SAME remaining
    stream — reached through any two ways of cutting it into CopyData messages — give the same
    `Read` result: the same row values, end-of-data, or error. (And after a row both again
    stand for one and the same remaining stream, by `first_sim` / `later_sim`.) -/
theorem C14_chunking (b1 b2 : Bin) (i1 i2 : Inp) (V : Bytes) (rest1 rest2 : List Item)
    (h1 : Rel b1 i1 V rest1) (h2 : Rel b2 i2 V rest2)
    (hst : b1.started = b2.started) (ho : b1.oids = b2.oids) (hL : i1.L = i2.L) :
    (binRead b1 i1).1 = (binRead b2 i2).1 := by
  have a1 := read_tracks h1
  have a2 := read_tracks h2
  rw [← hst, ← ho, ← hL] at a2
  generalize (if b1.started then Spec.fRow i1.L b1.oids V else fFirst i1.L b1.oids V) = y,
    binRead b1 i1 = x1, binRead b2 i2 = x2 at a1 a2 ⊢
  -- both readers track the same flat result `y`: its constructor fixes the rule of either `TracksRow`
  -- derivation, and the rule fixes the answer
  cases a1 <;> cases a2 <;> rfl

theorem fTake_append (b rest : Bytes) : fTake b.length (b ++ rest) = .ok b rest := by
  simp [fTake]

theorem fieldCount_be16 {n : Nat} (hn : n < 65536) : fieldCount (be16 n) = n := by
  rw [fieldCount, rd16_be16' n hn]

/-- a row that starts with a field count other than the trailer's -/
theorem fRow_count (L : Nat) (oids : List Nat) (n : Nat) (rest : Bytes) (hn : n < 65536) (h1 : n ≠ 65535) :
    fRow L oids (be16 n ++ rest) =
      if n ≠ oids.length then .err (.lib (errFieldCount oids.length n))
      else match fFields L oids rest with
        | .ok vals V2 => .row vals V2
        | .err e => .err e
        | .unsupported => .unsupported := by
  have hne : be16 n ++ rest ≠ [] := by simp [be16]
  have htk : fTake 2 (be16 n ++ rest) = .ok (be16 n) rest := fTake_append (be16 n) rest
  rw [fRow, if_neg hne, fRowBody, htk]
  dsimp only
  rw [fieldCount_be16 hn, if_neg h1]
  -- the two sides differ only in which copy of the `match` on `fFields` they use
  by_cases h2 : n ≠ oids.length
  · rw [if_pos h2, if_pos h2]
  · rw [if_neg h2, if_neg h2]
    cases fFields L oids rest <;> rfl

/-- **reject**: a row whose field count differs from the declared columns is an error —
    never a row, never a crash (the decoder is total; no panic outcome exists in its type) -/
theorem C14_count_mismatch (L : Nat) (oids : List Nat) (n : Nat) (rest : Bytes)
    (hn : n < 65536) (h1 : n ≠ 65535) (h2 : n ≠ oids.length) :
    fRow L oids (be16 n ++ rest) = .err (.lib (errFieldCount oids.length n)) := by
  rw [fRow_count L oids n rest hn h1, if_pos h2]

/-- a stream that ends inside a row is an error (unexpected EOF), not a fabricated row -/
theorem C14_truncated_count (L : Nat) (oids : List Nat) (x : UInt8) :
    fRow L oids [x] = .err (.lib errUnexpectedEOF) := by
  simp [fRow, fRowBody, fTake]

/-- non-vacuity: one int4 column, the row (7) after a 19-byte header, the trailer, sent (A) in
    one CopyData and (B) cut inside the signature, inside the length word and inside the value:
    both chunkings decode to the same first row -/
def exStream : Bytes :=
  copySignature ++ [0, 0, 0, 0, 0, 0, 0, 0] ++ [0, 1, 0, 0, 0, 4, 0, 0, 0, 7] ++ [255, 255]

def exInp (chunks : List Bytes) : Inp := { L := 100, tail := .wait, items := streamItems chunks [] }

set_option maxRecDepth 100000 in
example : (binRead (startState [23]) (exInp [exStream])).1 = some (.row [.int 7]) := by decide +kernel

set_option maxRecDepth 100000 in
example : (binRead (startState [23])
    (exInp [exStream.take 5, (exStream.drop 5).take 17, (exStream.drop 22).take 5, exStream.drop 27])).1
      = some (.row [.int 7]) := by decide +kernel

end Pw.Props.C14
