import Pw.Props.TieCopy
/-
  The rest of copy.go's binary reader against the model: `takeLength`, `skipHeader` and `BinaryCopyReader.Read` case by
  case, then, over a stream of complete messages, the simulation `c2_Sim` and the judgement `c2_Ret` up to
  `tie_binRead_sim`.

  A trap: goals that contain the translated body of `takeLength`, `skipHeader` or `Read` are stepped with `rw` and small
  equation lemmas only.  `simp only`/`dsimp` with the same lemmas rewrite under the `if`s of the body, whose conditions
  compare a stuck term with a literal (`if length ≠ 4294967295 …`), and the kernel then evaluates there: minutes, or
  "deep recursion" reported at the head of the declaration (try `unfold BinaryCopyReader_takeLength; simp only [ht,
  COut.bind, beUint32_cons, chkC_ok]` on the ok path).  A closing `rfl` is safe where the right-hand side is the
  generated text itself, copied (`c2_takeLength_unfold`, `c2_skipHeader_sig`, `c2_rowBody`, `c2_fieldLoop_step`: when
  copy.go changes these fail as a bare `rfl` mismatch, and the copy is what has to follow).  The texts of the generated code stay folded
  behind constants (`lengthFmt`, `c2_extText`, …) defined as `ascii "…"`; where one has to meet the byte literal of the
  generated code, `rw [c2_extText, ascii_ofList]` first turns it into a `List.map` over the characters, and the closing
  `rfl` (in an example, `decide +kernel`) has only that to evaluate.
-/
namespace Pw.Tie
open Pw.Go

/-- the translated `takeLength` carries the format literal `lengthFmt` -/
theorem c2_takeLength_unfold (fuel : Nat) (w : CWorld) :
    TransCopy.BinaryCopyReader_takeLength fuel w =
      (TransCopy.BinaryCopyReader_take fuel 4 w).bind fun t1 w =>
        if (t1.2 ≠ none) then .ok (0, t1.2) w
        else chkC (beUint32 t1.1) fun length =>
          if ((length ≠ 4294967295) ∧ ((u64 length) > (u64 w.base.reader.MaxMessageSize))) then
            .ok (0, some (CErr.errorf lengthFmt [length, w.base.reader.MaxMessageSize])) w
          else .ok (length, none) w := by
  rw [lengthFmt_eq]; rfl

theorem u64_id (i : Int) (h0 : 0 ≤ i) (h1 : i < 18446744073709551616) : u64 i = i := by
  unfold u64; omega

theorem c2_rd32_be32val (x y z t : UInt8) (r : Bytes) : rd32 (x :: y :: z :: t :: r) = some (be32val x y z t, r) :=
  rd32_cons x y z t r

theorem chkC_ok {α β} (a : α) (k : α → COut β) : chkC (.ok a) k = k a := rfl

/-- `take(4)` succeeded with the bytes `x y z t`: `takeLength` returns their big-endian value, unless that is
    neither 0xFFFFFFFF nor within `MaxMessageSize`, in which case the length error (the `.ok v` line of `binTakeLength`) -/
theorem tie_takeLength_ok (fuel : Nat) (w w' : CWorld) (x y z t : UInt8) (r : Bytes)
    (ht : TransCopy.BinaryCopyReader_take fuel 4 w = .ok (x :: y :: z :: t :: r, none) w')
    (hm : 0 ≤ w'.base.reader.MaxMessageSize ∧ w'.base.reader.MaxMessageSize < 4611686018427387904) :
    TransCopy.BinaryCopyReader_takeLength fuel w =
      if be32val x y z t ≠ 4294967295 ∧ be32val x y z t > w'.base.reader.MaxMessageSize.toNat then
        .ok (0, some (.errorf lengthFmt [(be32val x y z t : Nat), w'.base.reader.MaxMessageSize])) w'
      else .ok ((be32val x y z t : Nat), none) w' := by
  rw [c2_takeLength_unfold, ht, COut.bind, if_neg not_none_ne_none, beUint32_cons, chkC_ok]
  have hb := be32val_lt x y z t
  generalize lengthFmt = fmt
  obtain ⟨h0, h1⟩ := hm
  generalize be32val x y z t = n at hb
  rw [u64_id n (by omega) (by omega), u64_id _ h0 (by omega)]
  by_cases hc : n ≠ 4294967295 ∧ n > w'.base.reader.MaxMessageSize.toNat
  · have hc' : (((n : Int) ≠ 4294967295)) ∧ ((n : Int) > w'.base.reader.MaxMessageSize) := by omega
    rw [if_pos hc, if_pos hc']
  · have hc' : ¬ ((((n : Int) ≠ 4294967295)) ∧ ((n : Int) > w'.base.reader.MaxMessageSize)) := by omega
    rw [if_neg hc, if_neg hc']

theorem tie_takeLength_ok_abs (n : Nat) (M : Int) (h0 : 0 ≤ M) :
    absErr (.errorf lengthFmt [(n : Int), M]) = .lib (errLengthExceeds n M.toNat) := by
  obtain ⟨m, rfl⟩ := Int.eq_ofNat_of_zero_le h0
  rw [absErr_lengthExceeds]; simp

/-! ### `skipHeader` once the signature is there: the `binHeaderRest` chain, through what `take`/`takeLength` return -/

/-- text of the error for an extension-area length of 0xFFFFFFFF (it meets the literal of the generated code in
    `c2_skipHeader_sig`) -/
def c2_extText : Bytes := ascii "unexpected header extension area length"

/-- the guard of `skipHeader` after `fill`: `fill` returned nil or `io.EOF`, and `pending` starts with the signature -/
def c2_SigSeen (fuel : Nat) (w w1 : CWorld) : Prop :=
  ∃ e : Option CErr, TransCopy.BinaryCopyReader_fill fuel (TransCopy.CopySignature.length : Int) w = .ok e w1 ∧
    (e = none ∨ e = some (.lib .eof)) ∧ hasPrefix w1.bin.pending TransCopy.CopySignature = true

/-- signature present: `skipHeader` is the rest of its body run from the world `fill` left -/
theorem c2_skipHeader_sig (fuel : Nat) (w w1 : CWorld) (h : c2_SigSeen fuel w w1) :
    TransCopy.BinaryCopyReader_skipHeader fuel w =
      (TransCopy.BinaryCopyReader_take fuel ((copySignature.length + 4 : Nat) : Int) w1).bind fun t2 w =>
        if (t2.2 ≠ none) then .ok t2.2 w
        else (TransCopy.BinaryCopyReader_takeLength fuel w).bind fun t3 w =>
          if (t3.2 ≠ none) then .ok t3.2 w
          else if (t3.1 = 4294967295) then .ok (some (CErr.new c2_extText)) w
          else (TransCopy.BinaryCopyReader_take fuel (i64 t3.1) w).bind fun t4 w => .ok t4.2 w := by
  obtain ⟨e, hf, he, hp⟩ := h
  have hc : ¬ ((e ≠ none) ∧ (e ≠ some (CErr.lib Go.Err.eof))) := by
    rcases he with he | he <;> simp [he]
  have hq : ¬ ¬ (hasPrefix w1.bin.pending TransCopy.CopySignature = true) := by simp [hp]
  have h15 : i64 ((TransCopy.CopySignature.length : Int) + 4) = ((copySignature.length + 4 : Nat) : Int) := by decide
  unfold TransCopy.BinaryCopyReader_skipHeader
  rw [hf, COut.bind, if_neg hc, if_neg hq, h15, c2_extText, ascii_ofList]
  rfl

/-- `take(len(signature)+4)` fails: its error is returned (first `.err` line of `binHeaderRest`) -/
theorem tie_skipHeader_flags_err (fuel : Nat) (w w1 w2 : CWorld) (h : c2_SigSeen fuel w w1) (v : Bytes) (e : CErr)
    (h1 : TransCopy.BinaryCopyReader_take fuel ((copySignature.length + 4 : Nat) : Int) w1 = .ok (v, some e) w2) :
    TransCopy.BinaryCopyReader_skipHeader fuel w = .ok (some e) w2 := by
  rw [c2_skipHeader_sig fuel w w1 h, h1, COut.bind, if_pos (Option.some_ne_none e)]

theorem tie_skipHeader_flags_block (fuel : Nat) (w w1 : CWorld) (h : c2_SigSeen fuel w w1)
    (h1 : TransCopy.BinaryCopyReader_take fuel ((copySignature.length + 4 : Nat) : Int) w1 = .block) :
    TransCopy.BinaryCopyReader_skipHeader fuel w = .block := by
  rw [c2_skipHeader_sig fuel w w1 h, h1, COut.bind]

/-- `takeLength` for the extension area fails: its error is returned (second `.err` line of `binHeaderRest`) -/
theorem tie_skipHeader_extlen_err (fuel : Nat) (w w1 w2 w3 : CWorld) (h : c2_SigSeen fuel w w1) (v : Bytes) (n : Int) (e : CErr)
    (h1 : TransCopy.BinaryCopyReader_take fuel ((copySignature.length + 4 : Nat) : Int) w1 = .ok (v, none) w2)
    (h2 : TransCopy.BinaryCopyReader_takeLength fuel w2 = .ok (n, some e) w3) :
    TransCopy.BinaryCopyReader_skipHeader fuel w = .ok (some e) w3 := by
  rw [c2_skipHeader_sig fuel w w1 h, h1, COut.bind, if_neg not_none_ne_none, h2, COut.bind, if_pos (Option.some_ne_none e)]

theorem tie_skipHeader_extlen_block (fuel : Nat) (w w1 w2 : CWorld) (h : c2_SigSeen fuel w w1) (v : Bytes)
    (h1 : TransCopy.BinaryCopyReader_take fuel ((copySignature.length + 4 : Nat) : Int) w1 = .ok (v, none) w2)
    (h2 : TransCopy.BinaryCopyReader_takeLength fuel w2 = .block) :
    TransCopy.BinaryCopyReader_skipHeader fuel w = .block := by
  rw [c2_skipHeader_sig fuel w w1 h, h1, COut.bind, if_neg not_none_ne_none, h2, COut.bind]

/-- an extension-area length of 0xFFFFFFFF is rejected, with the model's text -/
theorem tie_skipHeader_ext_null (fuel : Nat) (w w1 w2 w3 : CWorld) (h : c2_SigSeen fuel w w1) (v : Bytes)
    (h1 : TransCopy.BinaryCopyReader_take fuel ((copySignature.length + 4 : Nat) : Int) w1 = .ok (v, none) w2)
    (h2 : TransCopy.BinaryCopyReader_takeLength fuel w2 = .ok (4294967295, none) w3) :
    TransCopy.BinaryCopyReader_skipHeader fuel w = .ok (some (.new c2_extText)) w3 ∧
    absErr (.new c2_extText) = .lib (.base (ascii "unexpected header extension area length")) := by
  refine ⟨?_, rfl⟩
  rw [c2_skipHeader_sig fuel w w1 h, h1, COut.bind, if_neg not_none_ne_none, h2, COut.bind, if_neg not_none_ne_none,
    if_pos rfl]

/-- any other extension-area length `n`: `skipHeader` returns whatever `take(n)` returns as its error
    (last `match` of `binHeaderRest`) -/
theorem tie_skipHeader_ext (fuel : Nat) (w w1 w2 w3 : CWorld) (h : c2_SigSeen fuel w w1) (v : Bytes) (n : Nat)
    (h1 : TransCopy.BinaryCopyReader_take fuel ((copySignature.length + 4 : Nat) : Int) w1 = .ok (v, none) w2)
    (h2 : TransCopy.BinaryCopyReader_takeLength fuel w2 = .ok ((n : Int), none) w3)
    (hn : n ≠ 4294967295) (hn' : n < 4294967296) :
    TransCopy.BinaryCopyReader_skipHeader fuel w =
      (TransCopy.BinaryCopyReader_take fuel (n : Int) w3).bind fun t4 w => .ok t4.2 w := by
  have hne : ¬ ((n : Int) = 4294967295) := by omega
  rw [c2_skipHeader_sig fuel w w1 h, h1, COut.bind, if_neg not_none_ne_none, h2, COut.bind, if_neg not_none_ne_none,
    if_neg hne, i64_id (n : Int) (by omega) (by omega)]

theorem tie_skipHeader_ext_cases (fuel : Nat) (w w1 w2 w3 : CWorld) (h : c2_SigSeen fuel w w1) (v : Bytes) (n : Nat)
    (h1 : TransCopy.BinaryCopyReader_take fuel ((copySignature.length + 4 : Nat) : Int) w1 = .ok (v, none) w2)
    (h2 : TransCopy.BinaryCopyReader_takeLength fuel w2 = .ok ((n : Int), none) w3)
    (hn : n ≠ 4294967295) (hn' : n < 4294967296) :
    (∀ v' e w4, TransCopy.BinaryCopyReader_take fuel (n : Int) w3 = .ok (v', e) w4 →
      TransCopy.BinaryCopyReader_skipHeader fuel w = .ok e w4) ∧
    (TransCopy.BinaryCopyReader_take fuel (n : Int) w3 = .block → TransCopy.BinaryCopyReader_skipHeader fuel w = .block) := by
  rw [tie_skipHeader_ext fuel w w1 w2 w3 h v n h1 h2 hn hn']
  refine ⟨?_, ?_⟩
  · intro v' e w4 h3; rw [h3, COut.bind]
  · intro h3; rw [h3, COut.bind]

/-! ### `BinaryCopyReader.Read`, piece by piece -/

def c2_trailerText : Bytes := ascii "unexpected copy data after the file trailer"
def c2_fieldFmt : Bytes := ascii "unexpected number of fields, %d columns are defined but %d fields were given"
def c2_hdrText : Bytes := ascii "unexpected header: "

/-- the two copies of the field loop the translator emits (one per call site) are the same function -/
theorem c2_loop_eq : ∀ fuel, TransCopy.BinaryCopyReader_Read.loop1 fuel = TransCopy.BinaryCopyReader_Read.loop2 fuel := by
  intro fuel
  induction fuel with
  | zero => funext err fields row value t7 index w; rfl
  | succ fuel ih =>
    funext err fields row value t7 index w
    unfold TransCopy.BinaryCopyReader_Read.loop1 TransCopy.BinaryCopyReader_Read.loop2
    rw [ih]

/-- `Read` from `take(2)` on (text of the generated code, the two message literals named) -/
def c2_rowBody (fuel : Nat) (w : CWorld) : COut (List AnyV × Option CErr) :=
  (TransCopy.BinaryCopyReader_take fuel 2 w).bind fun t13 w =>
  let value := t13.1
  let err := t13.2
  if (err ≠ none) then
    .ok (([] : List AnyV), err) w
  else
    chkC (beUint16 value) fun t14 =>
    let fields := t14
    if (fields = 65535) then
      (TransCopy.BinaryCopyReader_fill fuel 1 w).bind fun t15 w =>
      let err := t15
      if (err = (some (CErr.lib Err.eof))) then
        .ok (([] : List AnyV), (some (CErr.lib Err.eof))) w
      else
        if (err ≠ none) then
          .ok (([] : List AnyV), err) w
        else
          .ok (([] : List AnyV), (some (CErr.new c2_trailerText))) w
    else
      if ((i64 fields) ≠ (w.bin.nscanners : Int)) then
        .ok (([] : List AnyV), (some (CErr.errorf c2_fieldFmt [(w.bin.nscanners : Int), fields]))) w
      else
        chkC (makeAnys fields) fun t16 =>
        let row := t16
        let t17 : Int := fields
        let index : Int := 0
        TransCopy.BinaryCopyReader_Read.loop2 fuel err fields row value t17 index w

/-- `Read` from `fill(2)` on -/
def c2_rowPart (fuel : Nat) (w : CWorld) : COut (List AnyV × Option CErr) :=
  (TransCopy.BinaryCopyReader_fill fuel 2 w).bind fun t12 w =>
  let err := t12
  if ((err = (some (CErr.lib Err.eof))) ∧ ((w.bin.pending.length : Int) = 0)) then
    .ok (([] : List AnyV), (some (CErr.lib Err.eof))) w
  else
    if ((err ≠ none) ∧ (err ≠ (some (CErr.lib Err.eof)))) then
      .ok (([] : List AnyV), err) w
    else
      c2_rowBody fuel w

/-- a context error is returned before anything is read -/
theorem tie_binRead_ctx (fuel : Nat) (w : CWorld) (h : w.ctxErr ≠ none) :
    TransCopy.BinaryCopyReader_Read fuel w = .ok ([], w.ctxErr) w := by
  unfold TransCopy.BinaryCopyReader_Read
  rw [if_pos h]

/-- header already skipped: `Read` is the row part (`binRead`, `b.started`) -/
theorem tie_binRead_started (fuel : Nat) (w : CWorld) (hc : w.ctxErr = none) (hs : w.bin.started = true) :
    TransCopy.BinaryCopyReader_Read fuel w = c2_rowPart fuel w := by
  have h1 : ¬ (w.ctxErr ≠ none) := by simp [hc]
  have h2 : ¬ ¬ (w.bin.started = true) := by simp [hs]
  unfold TransCopy.BinaryCopyReader_Read
  rw [if_neg h1, if_neg h2]
  unfold c2_rowPart c2_rowBody
  rw [c2_trailerText, c2_fieldFmt, ascii_ofList, ascii_ofList]
  rfl

/-- first call: `started` is set, `skipHeader` runs; its error is wrapped ("unexpected header: %w"), otherwise the
    row part follows (`binRead`, the `hdr` match) -/
theorem tie_binRead_fresh (fuel : Nat) (w : CWorld) (hc : w.ctxErr = none) (hs : w.bin.started = false) :
    TransCopy.BinaryCopyReader_Read fuel w =
      (TransCopy.BinaryCopyReader_skipHeader fuel { w with bin := { w.bin with started := true } }).bind fun t1 w =>
        if (t1 ≠ none) then .ok (([] : List AnyV), errorfW c2_hdrText ([] : Bytes) t1) w
        else c2_rowPart fuel w := by
  have h1 : ¬ (w.ctxErr ≠ none) := by simp [hc]
  have h2 : ¬ (w.bin.started = true) := by simp [hs]
  unfold TransCopy.BinaryCopyReader_Read
  rw [if_neg h1, if_pos h2, c2_loop_eq]
  unfold c2_rowPart c2_rowBody
  rw [c2_trailerText, c2_fieldFmt, c2_hdrText, ascii_ofList, ascii_ofList, ascii_ofList]
  rfl

/-! row start (`binRowStart`) -/

/-- `fill(2)` reports `io.EOF` with nothing pending: the stream ended between two rows, `Read` returns `io.EOF` -/
theorem tie_rowPart_eof (fuel : Nat) (w w1 : CWorld)
    (hf : TransCopy.BinaryCopyReader_fill fuel 2 w = .ok (some (.lib .eof)) w1) (hp : w1.bin.pending = []) :
    c2_rowPart fuel w = .ok ([], some (.lib .eof)) w1 := by
  have hg : (some (CErr.lib Go.Err.eof) = some (CErr.lib Go.Err.eof)) ∧ ((w1.bin.pending.length : Int) = 0) := by
    rw [hp]; exact ⟨rfl, rfl⟩
  unfold c2_rowPart
  rw [hf, COut.bind, if_pos hg]

/-- `fill(2)` fails otherwise: the error is returned unwrapped -/
theorem tie_rowPart_err (fuel : Nat) (w w1 : CWorld) (e : CErr)
    (hf : TransCopy.BinaryCopyReader_fill fuel 2 w = .ok (some e) w1) (he : e ≠ .lib .eof) :
    c2_rowPart fuel w = .ok ([], some e) w1 := by
  have hg : ¬ ((some e = some (CErr.lib Go.Err.eof)) ∧ ((w1.bin.pending.length : Int) = 0)) := by simp [he]
  have hg2 : (some e ≠ none) ∧ (some e ≠ some (CErr.lib Go.Err.eof)) := by simp [he]
  unfold c2_rowPart
  rw [hf, COut.bind, if_neg hg, if_pos hg2]

theorem tie_rowPart_block (fuel : Nat) (w : CWorld) (hf : TransCopy.BinaryCopyReader_fill fuel 2 w = .block) :
    c2_rowPart fuel w = .block := by
  unfold c2_rowPart
  rw [hf, COut.bind]

/-- `fill(2)` returned nil, or `io.EOF` with a byte pending: on to the field count -/
theorem tie_rowPart_body (fuel : Nat) (w w1 : CWorld) (e : Option CErr)
    (hf : TransCopy.BinaryCopyReader_fill fuel 2 w = .ok e w1)
    (he : e = none ∨ (e = some (.lib .eof) ∧ w1.bin.pending ≠ [])) :
    c2_rowPart fuel w = c2_rowBody fuel w1 := by
  have hg : ¬ ((e = some (CErr.lib Go.Err.eof)) ∧ ((w1.bin.pending.length : Int) = 0)) := by
    rcases he with he | ⟨_, he⟩
    · simp [he]
    · intro ⟨_, h⟩; exact he (List.length_eq_zero_iff.mp (by omega))
  have hg2 : ¬ ((e ≠ none) ∧ (e ≠ some (CErr.lib Go.Err.eof))) := by
    rcases he with he | ⟨he, _⟩ <;> simp [he]
  unfold c2_rowPart
  rw [hf, COut.bind, if_neg hg, if_neg hg2]

/-! row body (`binRowBody`) -/

def c2_be16val (a b : UInt8) : Nat := a.toNat * 256 + b.toNat
theorem c2_beUint16 (a b : UInt8) (r : Bytes) : beUint16 (a :: b :: r) = .ok ((c2_be16val a b : Nat) : Int) := rfl
theorem c2_fieldCount (a b : UInt8) (r : Bytes) : fieldCount (a :: b :: r) = c2_be16val a b := rfl
theorem c2_be16val_lt (a b : UInt8) : c2_be16val a b < 65536 := by
  have := a.toNat_lt; have := b.toNat_lt; unfold c2_be16val; omega

theorem tie_rowBody_take_err (fuel : Nat) (w w2 : CWorld) (v : Bytes) (e : CErr)
    (ht : TransCopy.BinaryCopyReader_take fuel 2 w = .ok (v, some e) w2) :
    c2_rowBody fuel w = .ok ([], some e) w2 := by
  unfold c2_rowBody
  rw [ht, COut.bind, if_pos (Option.some_ne_none e)]

theorem tie_rowBody_take_block (fuel : Nat) (w : CWorld)
    (ht : TransCopy.BinaryCopyReader_take fuel 2 w = .block) : c2_rowBody fuel w = .block := by
  unfold c2_rowBody
  rw [ht, COut.bind]

/-- the file trailer 0xFFFF: `fill(1)` decides — `io.EOF` → `io.EOF`; another error → that error; a byte arrives →
    "unexpected copy data after the file trailer" (the model's text); blocked → blocked -/
theorem tie_rowBody_trailer (fuel : Nat) (w w2 : CWorld) (a b : UInt8) (r : Bytes)
    (ht : TransCopy.BinaryCopyReader_take fuel 2 w = .ok (a :: b :: r, none) w2) (hc : c2_be16val a b = 65535) :
    (∀ w3, TransCopy.BinaryCopyReader_fill fuel 1 w2 = .ok (some (.lib .eof)) w3 →
        c2_rowBody fuel w = .ok ([], some (.lib .eof)) w3) ∧
    (∀ e w3, TransCopy.BinaryCopyReader_fill fuel 1 w2 = .ok (some e) w3 → e ≠ .lib .eof →
        c2_rowBody fuel w = .ok ([], some e) w3) ∧
    (∀ w3, TransCopy.BinaryCopyReader_fill fuel 1 w2 = .ok none w3 →
        c2_rowBody fuel w = .ok ([], some (.new c2_trailerText)) w3) ∧
    (TransCopy.BinaryCopyReader_fill fuel 1 w2 = .block → c2_rowBody fuel w = .block) ∧
    absErr (.new c2_trailerText) = .lib (.base (ascii "unexpected copy data after the file trailer")) := by
  have h65 : ((c2_be16val a b : Nat) : Int) = 65535 := by omega
  have e0 : c2_rowBody fuel w = (TransCopy.BinaryCopyReader_fill fuel 1 w2).bind fun t15 w =>
      if (t15 = (some (CErr.lib Go.Err.eof))) then .ok (([] : List AnyV), (some (CErr.lib Go.Err.eof))) w
      else if (t15 ≠ none) then .ok (([] : List AnyV), t15) w
      else .ok (([] : List AnyV), (some (CErr.new c2_trailerText))) w := by
    unfold c2_rowBody
    rw [ht, COut.bind, if_neg not_none_ne_none, c2_beUint16, chkC_ok, if_pos h65]
  rw [e0]
  refine ⟨?_, ?_, ?_, ?_, rfl⟩
  · intro w3 h; rw [h, COut.bind, if_pos rfl]
  · intro e w3 h he
    have h1 : ¬ (some e = some (CErr.lib Go.Err.eof)) := by simp [he]
    rw [h, COut.bind, if_neg h1, if_pos (Option.some_ne_none e)]
  · intro w3 h
    have h1 : ¬ ((none : Option CErr) = some (CErr.lib Go.Err.eof)) := by simp
    rw [h, COut.bind, if_neg h1, if_neg not_none_ne_none]
  · intro h; rw [h, COut.bind]

/-- the structured `fmt.Errorf` value of the field-count check is the model's `errFieldCount` -/
theorem absErr_fieldCount (n f : Nat) :
    absErr (.errorf c2_fieldFmt [(n : Int), (f : Int)]) = .lib (errFieldCount n f) := by
  rw [errFieldCount, c2_fieldFmt, ascii_ofList, ascii_ofList, ascii_ofList, ascii_ofList]
  simp [absErr, fmtD, decInt_nat]

/-- a field count other than the number of columns: the model's `errFieldCount` -/
theorem tie_rowBody_count_mismatch (fuel : Nat) (w w2 : CWorld) (a b : UInt8) (r : Bytes)
    (ht : TransCopy.BinaryCopyReader_take fuel 2 w = .ok (a :: b :: r, none) w2) (hc : c2_be16val a b ≠ 65535)
    (hn : c2_be16val a b ≠ w2.bin.nscanners) :
    c2_rowBody fuel w =
      .ok ([], some (.errorf c2_fieldFmt [(w2.bin.nscanners : Int), (c2_be16val a b : Nat)])) w2 ∧
    absErr (.errorf c2_fieldFmt [(w2.bin.nscanners : Int), (c2_be16val a b : Nat)]) =
      .lib (errFieldCount w2.bin.nscanners (fieldCount (a :: b :: r))) := by
  refine ⟨?_, by rw [absErr_fieldCount, c2_fieldCount]⟩
  have hlt := c2_be16val_lt a b
  have h65 : ¬ (((c2_be16val a b : Nat) : Int) = 65535) := by omega
  have hi := i64_id ((c2_be16val a b : Nat) : Int) (by omega) (by omega)
  have hne : ((c2_be16val a b : Nat) : Int) ≠ (w2.bin.nscanners : Int) := by omega
  unfold c2_rowBody
  rw [ht, COut.bind, if_neg not_none_ne_none, c2_beUint16, chkC_ok, if_neg h65, hi, if_pos hne]

theorem c2_makeAnys (n : Nat) : makeAnys (n : Int) = .ok (List.replicate n .nil) := by
  have : ¬ ((n : Int) < 0) := by omega
  simp [makeAnys, this]

/-- the field count matches: a row of `nil`s is made and the field loop starts at index 0 -/
theorem tie_rowBody_fields (fuel : Nat) (w w2 : CWorld) (a b : UInt8) (r : Bytes)
    (ht : TransCopy.BinaryCopyReader_take fuel 2 w = .ok (a :: b :: r, none) w2) (hc : c2_be16val a b ≠ 65535)
    (hn : c2_be16val a b = w2.bin.nscanners) :
    c2_rowBody fuel w =
      TransCopy.BinaryCopyReader_Read.loop2 fuel none (c2_be16val a b : Nat) (List.replicate (c2_be16val a b) .nil)
        (a :: b :: r) (c2_be16val a b : Nat) 0 w2 := by
  have hlt := c2_be16val_lt a b
  have h65 : ¬ (((c2_be16val a b : Nat) : Int) = 65535) := by omega
  have hi := i64_id ((c2_be16val a b : Nat) : Int) (by omega) (by omega)
  have hne : ¬ (((c2_be16val a b : Nat) : Int) ≠ (w2.bin.nscanners : Int)) := by omega
  unfold c2_rowBody
  rw [ht, COut.bind, if_neg not_none_ne_none, c2_beUint16, chkC_ok, if_neg h65, hi, if_neg hne, c2_makeAnys, chkC_ok]

/-! the field loop (`binFields`).  The translator makes every local of `Read` that is in scope at the loop a parameter.  The
  body reads `row`, the bound `t` and `index`; `err`, `fields` and `value` it only hands on to the next round (it declares
  an `err` and a `value` of its own), so they stay universally quantified below. -/

def c2_fieldLenText : Bytes := ascii "unexpected field length: "
def c2_valueText : Bytes := ascii "unexpected value: "

/-- `fmt.Errorf(pre + "%w", err)` through `absErr` is the model's `wrapOp` -/
theorem absErr_wrap (pre : String) (e : CErr) : absErr (.wrap (ascii pre) [] e) = wrapOp pre (absErr e) := by
  cases h : absErr e <;> simp [absErr, wrapOp, h]

theorem tie_fieldLoop_done (fuel : Nat) (err : Option CErr) (fields : Int) (row : List AnyV) (value : Bytes)
    (t index : Int) (w : CWorld) (h : ¬ (index < t)) :
    TransCopy.BinaryCopyReader_Read.loop2 (fuel + 1) err fields row value t index w = .ok (row, none) w := by
  unfold TransCopy.BinaryCopyReader_Read.loop2
  rw [if_neg h]

theorem c2_fieldLoop_step (fuel : Nat) (err : Option CErr) (fields : Int) (row : List AnyV) (value : Bytes)
    (t index : Int) (w : CWorld) (h : index < t) :
    TransCopy.BinaryCopyReader_Read.loop2 (fuel + 1) err fields row value t index w =
      (TransCopy.BinaryCopyReader_takeLength fuel w).bind fun t18 w =>
        if (t18.2 ≠ none) then .ok (([] : List AnyV), errorfW c2_fieldLenText ([] : Bytes) t18.2) w
        else if (t18.1 = 4294967295) then
          TransCopy.BinaryCopyReader_Read.loop2 fuel err fields row value t (index + 1) w
        else (TransCopy.BinaryCopyReader_take fuel (i64 t18.1) w).bind fun t19 w =>
          if (t19.2 ≠ none) then .ok (([] : List AnyV), errorfW c2_valueText ([] : Bytes) t19.2) w
          else (scanCall index t19.1 w).bind fun t20 w =>
            chkC (anySet row index t20.1) fun t21 =>
              if (t20.2 ≠ none) then .ok (([] : List AnyV), t20.2) w
              else TransCopy.BinaryCopyReader_Read.loop2 fuel err fields t21 value t (index + 1) w := by
  conv => lhs; unfold TransCopy.BinaryCopyReader_Read.loop2
  rw [if_pos h, c2_fieldLenText, c2_valueText, ascii_ofList, ascii_ofList]
  rfl

/-- `takeLength` fails: "unexpected field length: %w" (the model's `wrapOp`) -/
theorem tie_fieldLoop_len_err (fuel : Nat) (err : Option CErr) (fields : Int) (row : List AnyV) (value : Bytes)
    (t index : Int) (w w1 : CWorld) (h : index < t) (n : Int) (e : CErr)
    (hl : TransCopy.BinaryCopyReader_takeLength fuel w = .ok (n, some e) w1) :
    TransCopy.BinaryCopyReader_Read.loop2 (fuel + 1) err fields row value t index w =
      .ok ([], some (.wrap c2_fieldLenText [] e)) w1 ∧
    absErr (.wrap c2_fieldLenText [] e) = wrapOp "unexpected field length: " (absErr e) := by
  refine ⟨?_, absErr_wrap _ e⟩
  rw [c2_fieldLoop_step _ _ _ _ _ _ _ _ h, hl, COut.bind, if_pos (Option.some_ne_none e)]
  rfl

theorem tie_fieldLoop_len_block (fuel : Nat) (err : Option CErr) (fields : Int) (row : List AnyV) (value : Bytes)
    (t index : Int) (w : CWorld) (h : index < t)
    (hl : TransCopy.BinaryCopyReader_takeLength fuel w = .block) :
    TransCopy.BinaryCopyReader_Read.loop2 (fuel + 1) err fields row value t index w = .block := by
  rw [c2_fieldLoop_step _ _ _ _ _ _ _ _ h, hl, COut.bind]

/-- a NULL field (length 0xFFFFFFFF): the loop goes on to the next index with the SAME row (the entry stays `nil`)
    in the world `takeLength` left — no `take`, no scanner call (`binFields`: `.null :: vs`) -/
theorem tie_fieldLoop_null (fuel : Nat) (err : Option CErr) (fields : Int) (row : List AnyV) (value : Bytes)
    (t index : Int) (w w1 : CWorld) (h : index < t)
    (hl : TransCopy.BinaryCopyReader_takeLength fuel w = .ok (4294967295, none) w1) :
    TransCopy.BinaryCopyReader_Read.loop2 (fuel + 1) err fields row value t index w =
      TransCopy.BinaryCopyReader_Read.loop2 fuel err fields row value t (index + 1) w1 := by
  rw [c2_fieldLoop_step _ _ _ _ _ _ _ _ h, hl, COut.bind, if_neg not_none_ne_none, if_pos rfl]

/-- a NULL field does not consult the scanners: with any other scanner table the step is the same -/
theorem tie_fieldLoop_null_noscan (fuel : Nat) (err : Option CErr) (fields : Int) (row : List AnyV) (value : Bytes)
    (t index : Int) (w w1 : CWorld) (h : index < t)
    (hl : TransCopy.BinaryCopyReader_takeLength fuel w = .ok (4294967295, none) w1) :
    ∃ w', TransCopy.BinaryCopyReader_Read.loop2 (fuel + 1) err fields row value t index w =
      TransCopy.BinaryCopyReader_Read.loop2 fuel err fields row value t (index + 1) w' ∧ w'.bin = w1.bin ∧
      w'.base = w1.base :=
  ⟨w1, tie_fieldLoop_null fuel err fields row value t index w w1 h hl, rfl, rfl⟩

/-- `take(length)` fails: "unexpected value: %w" -/
theorem tie_fieldLoop_value_err (fuel : Nat) (err : Option CErr) (fields : Int) (row : List AnyV) (value : Bytes)
    (t index : Int) (w w1 w2 : CWorld) (h : index < t) (n : Nat) (v : Bytes) (e : CErr)
    (hl : TransCopy.BinaryCopyReader_takeLength fuel w = .ok ((n : Int), none) w1)
    (hn : n ≠ 4294967295) (hn' : n < 4294967296)
    (hv : TransCopy.BinaryCopyReader_take fuel (n : Int) w1 = .ok (v, some e) w2) :
    TransCopy.BinaryCopyReader_Read.loop2 (fuel + 1) err fields row value t index w =
      .ok ([], some (.wrap c2_valueText [] e)) w2 ∧
    absErr (.wrap c2_valueText [] e) = wrapOp "unexpected value: " (absErr e) := by
  refine ⟨?_, absErr_wrap _ e⟩
  have hne : ¬ ((n : Int) = 4294967295) := by omega
  rw [c2_fieldLoop_step _ _ _ _ _ _ _ _ h, hl, COut.bind, if_neg not_none_ne_none, if_neg hne,
    i64_id (n : Int) (by omega) (by omega), hv, COut.bind, if_pos (Option.some_ne_none e)]
  rfl

/-- a value: the scanner of that column is called once with exactly the bytes `take` returned; its error ends `Read`,
    otherwise its value is stored at `index` and the loop goes on -/
theorem tie_fieldLoop_value (fuel : Nat) (err : Option CErr) (fields : Int) (row : List AnyV) (value : Bytes)
    (t : Int) (index : Nat) (w w1 w2 : CWorld) (h : (index : Int) < t) (n : Nat) (v : Bytes)
    (hl : TransCopy.BinaryCopyReader_takeLength fuel w = .ok ((n : Int), none) w1)
    (hn : n ≠ 4294967295) (hn' : n < 4294967296)
    (hv : TransCopy.BinaryCopyReader_take fuel (n : Int) w1 = .ok (v, none) w2)
    (hi : index < w2.bin.nscanners) (hr : index < row.length) :
    TransCopy.BinaryCopyReader_Read.loop2 (fuel + 1) err fields row value t index w =
      if ((w2.scan index v).2 ≠ none) then .ok ([], (w2.scan index v).2) w2
      else TransCopy.BinaryCopyReader_Read.loop2 fuel err fields (row.set index (w2.scan index v).1) value t
        ((index : Int) + 1) w2 := by
  have hne : ¬ ((n : Int) = 4294967295) := by omega
  have hs : scanCall (index : Int) v w2 = .ok (w2.scan index v) w2 := by
    simp [scanCall, hi]
  have ha : ∀ x, anySet row (index : Int) x = .ok (row.set index x) := by
    intro x
    simp [anySet, hr]
  rw [c2_fieldLoop_step _ _ _ _ _ _ _ _ h, hl, COut.bind, if_neg not_none_ne_none, if_neg hne,
    i64_id (n : Int) (by omega) (by omega), hv, COut.bind, if_neg not_none_ne_none, hs, COut.bind, ha, chkC_ok]

/-! ### `fill` over a stream of complete messages against `binFill`

  Inputs covered: the stream in front of the reader starts with the complete, in-limit messages `ms` (each of type
  'd', 'H', 'S' or 'c'), and the model — run on exactly these messages, nothing behind them, tail waiting — does not
  come back `blocked` (so: `fill` is decided within `ms`; running out of model fuel also counts as blocked).
  Oversized / truncated items and what follows `ms` are not covered. -/

/-- `src` starts with the complete in-limit messages `ms` (as `readItem` cuts them), `rest` follows -/
def c2_Stream (L : Nat) : List (UInt8 × Bytes) → Bytes → Bytes → Prop
  | [], src, rest => src = rest
  | p :: ms, src, rest => ∃ r, readItem L src = some (.msg p.1 p.2, r) ∧ c2_Stream L ms r rest

def c2_Allowed (ms : List (UInt8 × Bytes)) : Prop := ∀ p ∈ ms, p.1 = 100 ∨ p.1 = 72 ∨ p.1 = 83 ∨ p.1 = 99

def c2_items (ms : List (UInt8 × Bytes)) : List Item := ms.map fun p => Item.msg p.1 p.2

/-- the model's input: exactly the messages `ms`, nothing behind them yet -/
def c2_inp (L : Nat) (ms : List (UInt8 × Bytes)) (m : Bytes) (u : Bool) : Inp :=
  { L := L, items := c2_items ms, tail := .wait, msg := m, unsup := u }

def c2_bin (oids : List Nat) (w : CWorld) : Bin :=
  { pending := w.bin.pending, started := w.bin.started, done := w.bin.done, oids := oids }

def c2_absFill : Option CErr → FillRes
  | none => .ok
  | some (.lib .eof) => .eof
  | some e => .err (absErr e)

/-- the model did not run out of messages (or fuel) -/
def c2_NotBlocked : FillRes → Prop
  | .blocked => False
  | _ => True

instance : DecidablePred c2_NotBlocked := fun r => by
  cases r <;> unfold c2_NotBlocked <;> infer_instance

/-- what `fill`/`take`/`takeLength` leave alone -/
def c2_Same (w w' : CWorld) : Prop :=
  w'.bin.started = w.bin.started ∧ w'.bin.nscanners = w.bin.nscanners ∧ w'.ctxErr = w.ctxErr ∧ w'.scan = w.scan
theorem c2_Same.refl (w : CWorld) : c2_Same w w := ⟨rfl, rfl, rfl, rfl⟩
theorem c2_Same.trans {w1 w2 w3 : CWorld} (h1 : c2_Same w1 w2) (h2 : c2_Same w2 w3) : c2_Same w1 w3 :=
  ⟨h2.1.trans h1.1, h2.2.1.trans h1.2.1, h2.2.2.1.trans h1.2.2.1, h2.2.2.2.trans h1.2.2.2⟩

/-! ### the simulation relation, and `fill` / `take` / `takeLength` / `skipHeader` against the model on such streams -/

/-- the translated world `w` in front of the complete messages `ms` and the model state `(b, s)` describe the same
    situation -/
structure c2_Sim (L : Nat) (rest : Bytes) (u : Bool) (oids : List Nat) (w : CWorld) (ms : List (UInt8 × Bytes))
    (b : Bin) (s : Inp) : Prop where
  ok : ReaderOK w.base
  hL : w.base.reader.MaxMessageSize.toNat = L
  st : c2_Stream L ms w.base.src rest
  al : c2_Allowed ms
  hb : b = c2_bin oids w
  hs : s = c2_inp L ms w.base.reader.Msg.data u

/-- The judgement all statements below share.  `m` is a translated call, run in a world `w` that corresponds (`c2_Sim`,
    with `ms` in front) to the model state from which the model computed the triple `t`: `m` returns, its value agrees
    (`A`) with the model's result, and the states reached correspond again, with no more messages in front than before.
    `A` is given as a function of the MODEL's result, so that a case split on that result reduces it to the facts of the
    case, and `t` is the model's triple as it stands (`binTake size b s`, …), so that nothing has to be inverted. -/
def c2_Ret (L : Nat) (rest : Bytes) (u : Bool) (oids : List Nat) {α ρ : Type} (A : α → ρ → Prop) (m : COut α)
    (w : CWorld) (ms : List (UInt8 × Bytes)) : ρ × Bin × Inp → Prop
  | (r, b', s') =>
    ∃ a w' ms', m = .ok a w' ∧ A a r ∧ c2_Sim L rest u oids w' ms' b' s' ∧ c2_Same w w' ∧ ms'.length ≤ ms.length

section
variable {L : Nat} {rest : Bytes} {u : Bool} {oids : List Nat} {w : CWorld} {ms : List (UInt8 × Bytes)}
  {b : Bin} {s : Inp}

theorem c2_Ret.ret {α ρ : Type} {A : α → ρ → Prop} {a : α} {r : ρ} (sim : c2_Sim L rest u oids w ms b s) (h : A a r) :
    c2_Ret L rest u oids A (.ok a w) w ms (r, b, s) :=
  ⟨a, w, ms, rfl, h, sim, c2_Same.refl w, Nat.le_refl _⟩

theorem c2_Ret.bind {α β ρ σ : Type} {A : α → ρ → Prop} {B : β → σ → Prop} {m : COut α} {k : α → CWorld → COut β}
    {r1 : ρ} {b1 : Bin} {s1 : Inp} {t : σ × Bin × Inp} (h1 : c2_Ret L rest u oids A m w ms (r1, b1, s1))
    (h2 : ∀ a w1 ms1, A a r1 → c2_Sim L rest u oids w1 ms1 b1 s1 → c2_Same w w1 → ms1.length ≤ ms.length →
      c2_Ret L rest u oids B (k a w1) w1 ms1 t) :
    c2_Ret L rest u oids B (m.bind k) w ms t := by
  obtain ⟨a, w1, ms1, g1, g2, g3, g4, g5⟩ := h1
  obtain ⟨r, b', s'⟩ := t
  obtain ⟨c, w', ms', k1, k2, k3, k4, k5⟩ := h2 a w1 ms1 g2 g3 g4 g5
  exact ⟨c, w', ms', by rw [g1, COut.bind]; exact k1, k2, k3, g4.trans k4, Nat.le_trans k5 g5⟩

/-- what holds from states reached on the way holds from the start -/
theorem c2_Ret.from {α ρ : Type} {A : α → ρ → Prop} {m : COut α} {w1 : CWorld} {ms1 : List (UInt8 × Bytes)}
    {t : ρ × Bin × Inp} (same : c2_Same w w1) (le : ms1.length ≤ ms.length) (h : c2_Ret L rest u oids A m w1 ms1 t) :
    c2_Ret L rest u oids A m w ms t := by
  obtain ⟨r, b', s'⟩ := t
  obtain ⟨a, w', ms', g1, g2, g3, g4, g5⟩ := h
  exact ⟨a, w', ms', g1, g2, g3, same.trans g4, Nat.le_trans g5 le⟩

/-- the model wraps the result of a call into another result type; the states stay -/
theorem c2_Ret.mono {α ρ σ : Type} {A : α → ρ → Prop} {B : α → σ → Prop} {m : COut α} {r : ρ} {r' : σ} {b' : Bin}
    {s' : Inp} (h : c2_Ret L rest u oids A m w ms (r, b', s')) (hAB : ∀ a, A a r → B a r') :
    c2_Ret L rest u oids B m w ms (r', b', s') := by
  obtain ⟨a, w', ms', g1, g2, g3⟩ := h
  exact ⟨a, w', ms', g1, hAB a g2, g3⟩

/-- limits with the same `toNat` are the same limit: `ReaderOK` makes both non-negative -/
theorem c2_Sim.max_eq {w' : CWorld} {ms' : List (UInt8 × Bytes)} {b' : Bin} {s' : Inp} (ok : ReaderOK w.base)
    (hL : w.base.reader.MaxMessageSize.toNat = L) (sim' : c2_Sim L rest u oids w' ms' b' s') :
    w'.base.reader.MaxMessageSize = w.base.reader.MaxMessageSize := by
  have := ok.max
  have := sim'.ok.max
  have := sim'.hL
  omega

/-- `CopyReader.Read` over the stream: whenever the model's `copyRead` returns (does not block) within `ms`, the
    translated `Read` returns the same thing (nil or `io.EOF`: the stream is `c2_Allowed`), and both are left with the
    same remaining messages `ms'`; `Read` does not touch the binary reader's state -/
theorem c2_read_stream : ∀ (ms : List (UInt8 × Bytes)) (w : CWorld) (fuel mf : Nat) (s : Inp),
    c2_Sim L rest u oids w ms b s → ms.length + 1 ≤ fuel → ∀ r s', copyRead mf s = (some r, s') →
    ∃ e w1 ms', TransCopy.CopyReader_Read fuel w = .ok e w1 ∧ r = absCopyRes e w1.base.reader.Msg.data ∧
      (e = none ∨ e = some (.lib .eof)) ∧ c2_Sim L rest u oids w1 ms' b s' ∧ c2_Same w w1 ∧
      ms'.length < ms.length := by
  intro ms
  induction ms with
  | nil =>
    intro w fuel mf s sim hf r s' h
    rw [sim.hs] at h
    cases mf with
    | zero => simp [copyRead] at h
    | succ mf => simp [copyRead, c2_inp, c2_items, Inp.next] at h
  | cons p ms ih =>
    intro w fuel mf s sim hf r s' h
    obtain ⟨t, body⟩ := p
    obtain ⟨ok, hL, ⟨r1, hri, hs1⟩, ha, hb, rfl⟩ := sim
    have ha1 : c2_Allowed ms := fun q hq => ha q (List.mem_cons_of_mem _ hq)
    cases mf with
    | zero => simp [copyRead] at h
    | succ mf =>
      obtain ⟨f, rfl⟩ : ∃ f, fuel = f + 1 := ⟨fuel - 1, by simp at hf; omega⟩
      have hri' : readItem w.base.reader.MaxMessageSize.toNat w.base.src = some (.msg t body, r1) := by
        rw [hL]; exact hri
      by_cases ht : t = 72 ∨ t = 83
      · obtain ⟨w1, hrd, ⟨hok1, hsrc1, hmax1, _, hbin1, hctx1, hscan1⟩, hmsg, hcr⟩ :=
          tie_CopyRead_msg_skip f mf w ok t body r1 (c2_items ms) .wait w.base.reader.Msg.data u hri' ht
        rw [hL] at hcr
        have sim1 : c2_Sim L rest u oids w1 ms b (c2_inp L ms body u) :=
          ⟨hok1, by rw [hmax1]; exact hL, by rw [hsrc1]; exact hs1, ha1, by rw [hb, c2_bin, c2_bin, hbin1], by rw [hmsg]⟩
        obtain ⟨e, w2, ms', hR, hr, hsh, sim2, same2, hlen⟩ :=
          ih w1 f mf _ sim1 (by simp at hf; omega) r s' (hcr.symm.trans h)
        exact ⟨e, w2, ms', by rw [hrd]; exact hR, hr, hsh, sim2,
          c2_Same.trans ⟨by rw [hbin1], by rw [hbin1], hctx1, hscan1⟩ same2, by simp; omega⟩
      · obtain ⟨e, w1, hrd, ⟨hok1, hsrc1, hmax1, _, hbin1, hctx1, hscan1⟩, h100, h99, _, hcr⟩ :=
          tie_CopyRead_msg f mf w ok t body r1 (c2_items ms) .wait w.base.reader.Msg.data u hri' ht
        rw [hL] at hcr
        obtain ⟨hr, hs'⟩ := Prod.mk.inj (h.symm.trans hcr)
        refine ⟨e, w1, ms, hrd, Option.some.inj hr, ?_,
          ⟨hok1, by rw [hmax1]; exact hL, by rw [hsrc1]; exact hs1, ha1, by rw [hb, c2_bin, c2_bin, hbin1], hs'⟩,
          ⟨by rw [hbin1], by rw [hbin1], hctx1, hscan1⟩, by simp⟩
        rcases ha (t, body) List.mem_cons_self with hta | hta | hta | hta
        · exact Or.inl (h100 hta).1
        · exact absurd (Or.inl hta) ht
        · exact absurd (Or.inr hta) ht
        · exact Or.inr (h99 hta)

/-- one round of the `fill` loop keeps the correspondence: the body moves to `pending` on both sides -/
theorem c2_Sim.fill_step (sim : c2_Sim L rest u oids w ms b s) :
    c2_Sim L rest u oids (fillStep w) ms { b with pending := b.pending ++ w.base.reader.Msg.data }
      { s with msg := [] } :=
  ⟨fillStep_ok w sim.ok, sim.hL, sim.st, sim.al, by rw [sim.hb]; rfl,
    by rw [sim.hs, (fillStep_facts w).2.1]; rfl⟩

/-- on these streams (`c2_Allowed`) `CopyReader.Read` returns nil or `io.EOF` only, so `fill` does -/
def c2_FillAgree (e : Option CErr) : FillRes → Prop
  | .ok => e = none
  | .eof => e = some (.lib .eof)
  | _ => False

/-- `fill` against `binFill`, line by line (`tie_fill_enough`, `_done`, `_step_data`, `_step_eof`) -/
theorem tie_fill_sim (size : Nat) : ∀ (fuel mf : Nat) {w : CWorld} {ms : List (UInt8 × Bytes)} {b : Bin} {s : Inp},
    c2_Sim L rest u oids w ms b s → ms.length + 2 ≤ fuel → c2_NotBlocked (binFill size mf b s).1 →
    c2_Ret L rest u oids c2_FillAgree (TransCopy.BinaryCopyReader_fill fuel (size : Int) w) w ms
      (binFill size mf b s) := by
  intro fuel
  induction fuel with
  | zero => intro mf w ms b s sim hf; omega
  | succ fuel ih =>
    intro mf w ms b s sim hf hnb
    cases mf with
    | zero => exact hnb.elim
    | succ mf =>
      have hpend : b.pending = w.bin.pending := by rw [sim.hb]; rfl
      have hdone : b.done = w.bin.done := by rw [sim.hb]; rfl
      rw [binFill] at hnb ⊢
      by_cases hp : b.pending.length ≥ size
      · rw [if_pos hp, tie_fill_enough fuel size w (by rw [← hpend]; omega)]
        exact .ret sim rfl
      · rw [if_neg hp] at hnb ⊢
        have hp' : (w.bin.pending.length : Int) < (size : Int) := by rw [← hpend]; omega
        by_cases hd : b.done = true
        · rw [if_pos hd, tie_fill_done fuel size w hp' (by rw [← hdone]; exact hd)]
          exact .ret sim rfl
        · rw [if_neg hd] at hnb ⊢
          have hdf : w.bin.done = false := by rw [← hdone]; simpa using hd
          cases hc : copyRead (s.items.length + 1) s with
          | mk ro s1 =>
            rw [hc] at hnb
            cases ro with
            | none => exact hnb.elim
            | some r =>
              obtain ⟨e, w1, ms1, hR, hr, hsh, sim1, same1, hlen1⟩ :=
                c2_read_stream ms w fuel _ s sim (by omega) r s1 hc
              rcases hsh with rfl | rfl
              · -- CopyData: the body moves to `pending`, the loop goes round
                obtain rfl : r = .data w1.base.reader.Msg.data := hr
                rw [tie_fill_step_data fuel size w w1 hp' hdf hR sim1.ok.wf]
                exact .from (same1.trans (w3 := fillStep w1) ⟨rfl, rfl, rfl, rfl⟩) (Nat.le_of_lt hlen1)
                  (ih mf sim1.fill_step (by omega) hnb)
              · -- CopyDone: `done` is set
                obtain rfl : r = .eof := hr
                rw [tie_fill_step_eof fuel size w w1 hp' hdf hR]
                exact ⟨_, _, ms1, rfl, rfl, ⟨sim1.ok, sim1.hL, sim1.st, sim1.al, by rw [sim1.hb]; rfl, sim1.hs⟩,
                  same1.trans (w3 := { w1 with bin := { w1.bin with done := true } }) ⟨rfl, rfl, rfl, rfl⟩,
                  Nat.le_of_lt hlen1⟩

/-- `tie_fill_sim` with `c2_Sim` and `c2_Ret` written out: whenever the model's `binFill` on exactly the messages `ms`
    does not come back blocked, the translated `fill` returns, with the same result (`c2_absFill`), `pending` and `done`
    (`c2_bin`), the same remaining messages `ms'` in front of both, and `reader.Msg` = the model's `msg`. -/
theorem tie_fill_stream (L : Nat) (rest : Bytes) (u : Bool) (oids : List Nat) (size : Nat) :
    ∀ (fuel : Nat) (ms : List (UInt8 × Bytes)) (w : CWorld) (mf : Nat), ReaderOK w.base →
      w.base.reader.MaxMessageSize.toNat = L → c2_Stream L ms w.base.src rest → c2_Allowed ms → ms.length + 2 ≤ fuel →
      ∀ res b' s', binFill size mf (c2_bin oids w) (c2_inp L ms w.base.reader.Msg.data u) = (res, b', s') →
      c2_NotBlocked res →
      ∃ e w' ms', TransCopy.BinaryCopyReader_fill fuel (size : Int) w = .ok e w' ∧ res = c2_absFill e ∧
        b' = c2_bin oids w' ∧ s' = c2_inp L ms' w'.base.reader.Msg.data u ∧ ReaderOK w'.base ∧
        w'.base.reader.MaxMessageSize = w.base.reader.MaxMessageSize ∧ c2_Same w w' ∧
        c2_Stream L ms' w'.base.src rest ∧ c2_Allowed ms' ∧ ms'.length ≤ ms.length ∧
        (e = none ∨ e = some (.lib .eof)) := by
  intro fuel ms w mf ok hL hs ha hf res b' s' h hnb
  have t := tie_fill_sim (u := u) (oids := oids) size fuel mf ⟨ok, hL, hs, ha, rfl, rfl⟩ hf
  rw [h] at t
  obtain ⟨e, w', ms', g1, ag, sim', same, le⟩ := t hnb
  have hres : res = c2_absFill e ∧ (e = none ∨ e = some (.lib .eof)) := by
    cases res with
    | ok => rw [show e = none from ag]; exact ⟨rfl, Or.inl rfl⟩
    | eof => rw [show e = _ from ag]; exact ⟨rfl, Or.inr rfl⟩
    | err x => exact ag.elim
    | blocked => exact ag.elim
  exact ⟨e, w', ms', g1, hres.1, sim'.hb, sim'.hs, sim'.ok, sim'.max_eq ok hL, same, sim'.st, sim'.al, le, hres.2⟩

def c2_TakeAgree (size : Nat) (r : Bytes × Option CErr) : TakeRes → Prop
  | .ok v => r = (v, none) ∧ v.length = size
  | .err e => r.2 = some (.lib .unexpectedEOF) ∧ e = absErr (.lib .unexpectedEOF)
  | .blocked => False

/-- `take` against `binTake`: the value, or `io.ErrUnexpectedEOF` when the stream ended (CopyDone) first -/
theorem tie_take_sim (sim : c2_Sim L rest u oids w ms b s) (size fuel : Nat) (hf : ms.length + 2 ≤ fuel)
    (hnb : (binTake size b s).1 ≠ .blocked) :
    c2_Ret L rest u oids (c2_TakeAgree size) (TransCopy.BinaryCopyReader_take fuel (size : Int) w) w ms
      (binTake size b s) := by
  unfold binTake at hnb ⊢
  have hfill := tie_fill_sim size fuel (binFuel s) sim hf
  generalize binFill size (binFuel s) b s = t at hnb hfill
  obtain ⟨fr, b1, s1⟩ := t
  cases fr with
  | blocked => exact absurd rfl hnb
  | err e =>
    obtain ⟨_, _, _, _, g, _⟩ := hfill trivial
    exact g.elim
  | eof =>
    obtain ⟨e, w', ms', g1, rfl, g4, g5, g6⟩ := hfill trivial
    exact ⟨_, w', ms', tie_take_eof fuel size w w' g1, ⟨rfl, rfl⟩, g4, g5, g6⟩
  | ok =>
    obtain ⟨e, w', ms', g1, rfl, g4, g5, g6⟩ := hfill trivial
    have hp := fill_post fuel size w w' g1
    refine ⟨_, takeW w' size, ms', tie_take_ok fuel size w w' g1, ⟨?_, ?_⟩,
      ⟨g4.ok, g4.hL, g4.st, g4.al, ?_, g4.hs⟩, g5, g6⟩
    · rw [g4.hb]; rfl
    · rw [g4.hb]
      simp only [c2_bin, List.length_take]
      omega
    · rw [g4.hb]; rfl

/-- `take` against `binTake` on such a stream: the model's `.ok v` is the translated `(v, nil)`, and the worlds agree -/
theorem tie_take_stream (L : Nat) (rest : Bytes) (u : Bool) (oids : List Nat) (size fuel : Nat)
    (ms : List (UInt8 × Bytes)) (w : CWorld) (ok : ReaderOK w.base) (hL : w.base.reader.MaxMessageSize.toNat = L)
    (hs : c2_Stream L ms w.base.src rest) (ha : c2_Allowed ms) (hf : ms.length + 2 ≤ fuel) (v : Bytes) (b' : Bin) (s' : Inp)
    (h : binTake size (c2_bin oids w) (c2_inp L ms w.base.reader.Msg.data u) = (.ok v, b', s')) :
    ∃ w' ms', TransCopy.BinaryCopyReader_take fuel (size : Int) w = .ok (v, none) w' ∧ b' = c2_bin oids w' ∧
      s' = c2_inp L ms' w'.base.reader.Msg.data u ∧ ReaderOK w'.base ∧
      w'.base.reader.MaxMessageSize = w.base.reader.MaxMessageSize ∧
      c2_Stream L ms' w'.base.src rest ∧ c2_Allowed ms' ∧ ms'.length ≤ ms.length := by
  have t := tie_take_sim (u := u) (oids := oids) ⟨ok, hL, hs, ha, rfl, rfl⟩ size fuel hf
  rw [h] at t
  obtain ⟨_, w', ms', g1, ⟨rfl, _⟩, sim', _, g6⟩ := t nofun
  exact ⟨w', ms', g1, sim'.hb, sim'.hs, sim'.ok, sim'.max_eq ok hL, sim'.st, sim'.al, g6⟩

theorem c2_len4 (v : Bytes) (h : v.length = 4) : ∃ x y z t, v = [x, y, z, t] := by
  match v, h with
  | [x, y, z, t], _ => exact ⟨x, y, z, t, rfl⟩

def c2_LenAgree (r : Int × Option CErr) : LenRes → Prop
  | .ok k => r = ((k : Int), none) ∧ k < 4294967296
  | .err e => ∃ e', r.2 = some e' ∧ e = absErr e'
  | .blocked => False

/-- `takeLength` against `binTakeLength`: the length (below 2^32; 0xFFFFFFFF or within the limit), or an error that is
    the model's error through `absErr` -/
theorem tie_takeLength_sim (sim : c2_Sim L rest u oids w ms b s) (fuel : Nat) (hf : ms.length + 2 ≤ fuel)
    (hnb : (binTakeLength b s).1 ≠ .blocked) :
    c2_Ret L rest u oids c2_LenAgree (TransCopy.BinaryCopyReader_takeLength fuel w) w ms (binTakeLength b s) := by
  unfold binTakeLength at hnb ⊢
  have htake := tie_take_sim sim 4 fuel hf
  generalize binTake 4 b s = t at hnb htake
  obtain ⟨tr, b1, s1⟩ := t
  cases tr with
  | blocked => exact absurd rfl hnb
  | err e =>
    obtain ⟨⟨v, e'⟩, w', ms', g1, ⟨rfl, ge⟩, g4, g5, g6⟩ := htake nofun
    exact ⟨_, w', ms', tie_takeLength_err fuel w w' v _ g1, ⟨_, rfl, ge⟩, g4, g5, g6⟩
  | ok v =>
    obtain ⟨_, w', ms', g1, ⟨rfl, gl⟩, g4, g5, g6⟩ := htake nofun
    obtain ⟨x, y, z, t, rfl⟩ := c2_len4 v gl
    have hmax := g4.ok.max
    have hT := tie_takeLength_ok fuel w w' x y z t [] g1 hmax
    have hsL : s1.L = w'.base.reader.MaxMessageSize.toNat := by rw [g4.hs, g4.hL]; rfl
    simp only [c2_rd32_be32val]
    rw [hsL]
    by_cases hc : be32val x y z t ≠ 4294967295 ∧ be32val x y z t > w'.base.reader.MaxMessageSize.toNat
    · rw [if_pos hc] at hT ⊢
      exact ⟨_, w', ms', hT, ⟨_, rfl, (tie_takeLength_ok_abs _ _ hmax.1).symm⟩, g4, g5, g6⟩
    · rw [if_neg hc] at hT ⊢
      exact ⟨_, w', ms', hT, ⟨rfl, be32val_lt x y z t⟩, g4, g5, g6⟩

def c2_StepAgree (e : Option CErr) : StepRes → Prop
  | .ok => e = none
  | .err x => ∃ e', e = some e' ∧ x = absErr e'
  | .blocked => False

theorem tie_headerRest_sim {w1 : CWorld} (sim : c2_Sim L rest u oids w1 ms b s) (fuel : Nat)
    (hf : ms.length + 2 ≤ fuel) (sig : c2_SigSeen fuel w w1) (hnb : (binHeaderRest b s).1 ≠ .blocked) :
    c2_Ret L rest u oids c2_StepAgree (TransCopy.BinaryCopyReader_skipHeader fuel w) w1 ms (binHeaderRest b s) := by
  unfold binHeaderRest at hnb ⊢
  have h1 := tie_take_sim sim (copySignature.length + 4) fuel hf
  generalize binTake (copySignature.length + 4) b s = t1 at hnb h1
  obtain ⟨tr, b2, s2⟩ := t1
  cases tr with
  | blocked => exact absurd rfl hnb
  | err e =>
    obtain ⟨⟨v, e'⟩, w2, ms2, g1, ⟨rfl, ge⟩, g4, g5, g6⟩ := h1 nofun
    exact ⟨_, w2, ms2, tie_skipHeader_flags_err fuel w w1 w2 sig v _ g1, ⟨_, rfl, ge⟩, g4, g5, g6⟩
  | ok v =>
    obtain ⟨_, w2, ms2, g1, ⟨rfl, _⟩, g4, g5, g6⟩ := h1 nofun
    simp only [] at hnb ⊢
    have h2 := tie_takeLength_sim g4 fuel (by omega)
    generalize binTakeLength b2 s2 = t2 at hnb h2
    obtain ⟨lr, b3, s3⟩ := t2
    cases lr with
    | blocked => exact absurd rfl hnb
    | err e =>
      obtain ⟨⟨n, e'⟩, w3, ms3, k1, ⟨e'', rfl, ke⟩, k4, k5, k6⟩ := h2 nofun
      exact ⟨_, w3, ms3, tie_skipHeader_extlen_err fuel w w1 w2 w3 sig v n e'' g1 k1, ⟨_, rfl, ke⟩, k4, g5.trans k5,
        by omega⟩
    | ok ext =>
      obtain ⟨_, w3, ms3, k1, ⟨rfl, klt⟩, k4, k5, k6⟩ := h2 nofun
      simp only [] at hnb ⊢
      by_cases hx : ext = 4294967295
      · rw [if_pos hx]
        subst hx
        exact ⟨_, w3, ms3, (tie_skipHeader_ext_null fuel w w1 w2 w3 sig v g1 k1).1, ⟨_, rfl, rfl⟩, k4, g5.trans k5,
          by omega⟩
      · rw [if_neg hx] at hnb ⊢
        obtain ⟨c1, c2⟩ := tie_skipHeader_ext_cases fuel w w1 w2 w3 sig v ext g1 k1 hx klt
        have h3 := tie_take_sim k4 ext fuel (by omega)
        generalize binTake ext b3 s3 = t3 at hnb h3
        obtain ⟨tr3, b4, s4⟩ := t3
        cases tr3 with
        | blocked => exact absurd rfl hnb
        | err e =>
          obtain ⟨⟨v4, e4⟩, w4, ms4, m1, ⟨rfl, me⟩, m4, m5, m6⟩ := h3 nofun
          exact ⟨_, w4, ms4, c1 _ _ _ m1, ⟨_, rfl, me⟩, m4, (g5.trans k5).trans m5, by omega⟩
        | ok v4 =>
          obtain ⟨_, w4, ms4, m1, ⟨rfl, _⟩, m4, m5, m6⟩ := h3 nofun
          exact ⟨_, w4, ms4, c1 _ _ _ m1, rfl, m4, (g5.trans k5).trans m5, by omega⟩

theorem tie_skipHeader_sim (sim : c2_Sim L rest u oids w ms b s) (fuel : Nat) (hf : ms.length + 2 ≤ fuel)
    (hnb : (binSkipHeader b s).1 ≠ .blocked) :
    c2_Ret L rest u oids c2_StepAgree (TransCopy.BinaryCopyReader_skipHeader fuel w) w ms (binSkipHeader b s) := by
  unfold binSkipHeader at hnb ⊢
  have h1 := tie_fill_sim copySignature.length fuel (binFuel s) sim hf
  generalize binFill copySignature.length (binFuel s) b s = t1 at hnb h1
  obtain ⟨fr, b1, s1⟩ := t1
  -- `fill` returned nil or `io.EOF`: the prefix test decides, on the `pending` both sides share
  have check : ∀ (e0 : Option CErr) (w1 : CWorld) (ms1 : List (UInt8 × Bytes)),
      TransCopy.BinaryCopyReader_fill fuel (TransCopy.CopySignature.length : Int) w = .ok e0 w1 →
      (e0 = none ∨ e0 = some (.lib .eof)) → c2_Sim L rest u oids w1 ms1 b1 s1 → c2_Same w w1 →
      ms1.length ≤ ms.length → (binHeaderCheck b1 s1).1 ≠ .blocked →
      c2_Ret L rest u oids c2_StepAgree (TransCopy.BinaryCopyReader_skipHeader fuel w) w ms (binHeaderCheck b1 s1) := by
    intro e0 w1 ms1 g1 g3 g4 g5 g6 hnb
    unfold binHeaderCheck at hnb ⊢
    have hpend : b1.pending = w1.bin.pending := by rw [g4.hb]; rfl
    rw [hpend] at hnb ⊢
    by_cases hpre : w1.bin.pending.take copySignature.length ≠ copySignature
    · rw [if_pos hpre]
      exact ⟨none, w1, ms1, tie_skipHeader_noSig fuel w w1 e0 g1 g3 ((hasPrefix_model _).2 hpre), rfl, g4, g5, g6⟩
    · rw [if_neg hpre] at hnb ⊢
      have hp : hasPrefix w1.bin.pending TransCopy.CopySignature = true :=
        eq_true_of_ne_false fun hh => hpre ((hasPrefix_model _).1 hh)
      exact .from g5 g6 (tie_headerRest_sim g4 fuel (by omega) ⟨e0, g1, g3, hp⟩ hnb)
  cases fr with
  | blocked => exact absurd rfl hnb
  | err e =>
    obtain ⟨_, _, _, _, g, _⟩ := h1 trivial
    exact g.elim
  | eof =>
    obtain ⟨e0, w1, ms1, g1, rfl, g4, g5, g6⟩ := h1 trivial
    exact check _ w1 ms1 g1 (Or.inr rfl) g4 g5 g6 hnb
  | ok =>
    obtain ⟨e0, w1, ms1, g1, rfl, g4, g5, g6⟩ := h1 trivial
    exact check _ w1 ms1 g1 (Or.inl rfl) g4 g5 g6 hnb

/-! ### the field loop, the row part and `Read` against `binFields` / `binRowStart` / `binRead` on such streams

  The column scanners are external to copy.go.  ASSUMPTION `c2_ScanRel`: the scanner of column `i` returns the model's
  `decodeVal oid 1` of that column (through an interpretation `vm` of the opaque Go values, `vm nil = NULL`), and an
  (external) error value exactly when `decodeVal` fails; columns whose codec the model does not cover are excluded. -/

def c2_ScanRel (vm : AnyV → Val) (oids : List Nat) (scan : Nat → Bytes → AnyV × Option CErr) : Prop :=
  ∀ (pre : List Nat) (oid : Nat) (os : List Nat) (v : Bytes), oids = pre ++ oid :: os →
    match decodeVal oid 1 (some v) with
    | .ok val => (scan pre.length v).2 = none ∧ vm (scan pre.length v).1 = val
    | .err => ∃ id, (scan pre.length v).2 = some (.ext id)
    | .unsupported => True

theorem c2_Same.scanRel {w w' : CWorld} (h : c2_Same w w') {vm : AnyV → Val} {oids : List Nat}
    (hsc : c2_ScanRel vm oids w.scan) : c2_ScanRel vm oids w'.scan := by
  rw [h.2.2.2]; exact hsc

theorem c2_Same.nscanners {w w' : CWorld} (h : c2_Same w w') {n : Nat} (hns : w.bin.nscanners = n) :
    w'.bin.nscanners = n := by
  rw [h.2.1]; exact hns

/-- the model neither blocked nor left its coverage -/
def c2_FieldsNB : FieldsRes → Prop
  | .blocked => False
  | .unsupported => False
  | _ => True

/-- what the field loop returned, against the model's `FieldsRes`: the entries before `done` are kept, the others are
    the model's values -/
def c2_FieldsAgree (vm : AnyV → Val) (done : List AnyV) (r : List AnyV × Option CErr) : FieldsRes → Prop
  | .ok vals => ∃ tl, r = (done ++ tl, none) ∧ tl.map vm = vals
  | .err e => ∃ e', r = ([], some e') ∧ e' ≠ .lib .eof ∧ absErr e' = e
  | _ => False

theorem c2_set_done (done : List AnyV) (n : Nat) (x : AnyV) :
    (done ++ List.replicate (n + 1) AnyV.nil).set done.length x = (done ++ [x]) ++ List.replicate n AnyV.nil := by
  rw [List.set_append_right _ _ (Nat.le_refl _)]
  simp [List.replicate_succ]

theorem c2_wrap_ne_eof (pre post : Bytes) (e : CErr) : CErr.wrap pre post e ≠ .lib .eof := by simp

/-- the model's `val :: vs` on the result `t` of the remaining fields, for a loop that stored `x` (with `vm x = val`)
    behind the entries `done` and went on -/
theorem c2_fields_cons {vm : AnyV → Val} {done : List AnyV} {x : AnyV} {val : Val} (hx : vm x = val)
    {m : COut (List AnyV × Option CErr)} {t : FieldsRes × Bin × Inp} :
    let t' : FieldsRes × Bin × Inp := match t with
      | (.ok vs, b, s) => (.ok (val :: vs), b, s)
      | r => r
    (c2_FieldsNB t.1 → c2_Ret L rest u oids (c2_FieldsAgree vm (done ++ [x])) m w ms t) →
    c2_FieldsNB t'.1 → c2_Ret L rest u oids (c2_FieldsAgree vm done) m w ms t' := by
  obtain ⟨fr, b', s'⟩ := t
  intro t' h hnb
  cases fr with
  | ok vs =>
    refine (h trivial).mono fun a ⟨tl, q1, q2⟩ => ⟨x :: tl, ?_, ?_⟩
    · rw [q1, List.append_assoc, List.singleton_append]
    · rw [List.map_cons, hx, q2]
  | err e => exact h trivial
  | blocked => exact hnb.elim
  | unsupported => exact hnb.elim

/-- the field loop against `binFields`, from column `pre.length` on, the entries `done` already stored -/
theorem tie_fields_sim (vm : AnyV → Val) (hvm : vm .nil = .null) (err : Option CErr) (fields : Int) (value : Bytes) :
    ∀ (os pre : List Nat) (done : List AnyV) (w : CWorld) (ms : List (UInt8 × Bytes)) (b : Bin) (s : Inp) (fuel : Nat),
      oids = pre ++ os → done.length = pre.length → c2_Sim L rest u oids w ms b s → c2_ScanRel vm oids w.scan →
      w.bin.nscanners = oids.length → ms.length + os.length + 3 ≤ fuel → c2_FieldsNB (binFields os b s).1 →
      c2_Ret L rest u oids (c2_FieldsAgree vm done)
        (TransCopy.BinaryCopyReader_Read.loop2 fuel err fields (done ++ List.replicate os.length .nil) value
          (oids.length : Int) (pre.length : Int) w) w ms (binFields os b s) := by
  intro os
  induction os with
  | nil =>
    intro pre done w ms b s fuel ho hdl sim hsc hns hf hnb
    obtain ⟨f, rfl⟩ : ∃ f, fuel = f + 1 := ⟨fuel - 1, by omega⟩
    have hlt : ¬ ((pre.length : Int) < (oids.length : Int)) := by rw [ho]; simp
    rw [tie_fieldLoop_done f err fields _ value _ _ w hlt]
    exact .ret sim ⟨[], by simp, rfl⟩
  | cons oid os ih =>
    intro pre done w ms b s fuel ho hdl sim hsc hns hf hnb
    obtain ⟨f, rfl⟩ : ∃ f, fuel = f + 1 := ⟨fuel - 1, by omega⟩
    have hlen : oids.length = pre.length + (os.length + 1) := by rw [ho]; simp
    have hlt : (pre.length : Int) < (oids.length : Int) := by omega
    have ho' : oids = (pre ++ [oid]) ++ os := by rw [ho]; simp
    have hcast : ((pre ++ [oid]).length : Int) = (pre.length : Int) + 1 := by simp
    simp only [List.length_cons] at hf ⊢
    unfold binFields at hnb ⊢
    have h1 := tie_takeLength_sim sim f (by omega)
    generalize binTakeLength b s = t1 at hnb h1
    obtain ⟨lr, b1, s1⟩ := t1
    cases lr with
    | blocked => exact hnb.elim
    | err e =>
      obtain ⟨⟨n, e'⟩, w1, ms1, k1, ⟨e'', rfl, ke⟩, k4, k5, k6⟩ := h1 nofun
      obtain ⟨t1, t2⟩ := tie_fieldLoop_len_err f err fields (done ++ List.replicate (os.length + 1) .nil) value _ _ w w1
        hlt n e'' k1
      exact ⟨_, w1, ms1, t1, ⟨_, rfl, c2_wrap_ne_eof _ _ _, by rw [t2, ke]⟩, k4, k5, k6⟩
    | ok len =>
      obtain ⟨_, w1, ms1, k1, ⟨rfl, klt⟩, k4, k5, k6⟩ := h1 nofun
      simp only [] at hnb ⊢
      by_cases hx : len = 4294967295
      · -- NULL: no `take`, no scanner
        rw [if_pos hx] at hnb ⊢
        subst hx
        rw [tie_fieldLoop_null f err fields (done ++ List.replicate (os.length + 1) AnyV.nil) value _ _ w w1 hlt k1]
        have hrec := ih (pre ++ [oid]) (done ++ [.nil]) w1 ms1 b1 s1 f ho' (by simp [hdl]) k4 (k5.scanRel hsc)
          (k5.nscanners hns) (by omega)
        rw [hcast, List.append_assoc, List.singleton_append, ← List.replicate_succ] at hrec
        exact .from k5 k6 (c2_fields_cons hvm hrec hnb)
      · rw [if_neg hx] at hnb ⊢
        have h2 := tie_take_sim k4 len f (by omega)
        generalize binTake len b1 s1 = t2 at hnb h2
        obtain ⟨tr, b2, s2⟩ := t2
        cases tr with
        | blocked => exact hnb.elim
        | err e =>
          -- the value is cut short
          obtain ⟨⟨v, e2⟩, w2, ms2, m1, ⟨rfl, me⟩, m4, m5, m6⟩ := h2 nofun
          obtain ⟨t1, t2⟩ := tie_fieldLoop_value_err f err fields (done ++ List.replicate (os.length + 1) .nil) value
            _ _ w w1 w2 hlt len v _ k1 hx klt m1
          exact ⟨_, w2, ms2, t1, ⟨_, rfl, c2_wrap_ne_eof _ _ _, by rw [t2, me]⟩, m4, k5.trans m5, by omega⟩
        | ok v =>
          -- a value: the scanner is called
          obtain ⟨_, w2, ms2, m1, ⟨rfl, _⟩, m4, m5, m6⟩ := h2 nofun
          have hsc2 := m5.scanRel (k5.scanRel hsc)
          have hns2 := m5.nscanners (k5.nscanners hns)
          have hrel := hsc2 pre oid os v ho
          have hstep := tie_fieldLoop_value f err fields (done ++ List.replicate (os.length + 1) .nil) value
            (oids.length : Int) pre.length w w1 w2 hlt len v k1 hx klt m1 (by omega) (by simp; omega)
          rw [← hdl, c2_set_done, hdl] at hstep
          rw [hstep]
          simp only [] at hnb ⊢
          cases hd : decodeVal oid 1 (some v) with
          | unsupported =>
            rw [hd] at hnb
            exact hnb.elim
          | err =>
            rw [hd] at hrel
            obtain ⟨id, hid⟩ := hrel
            rw [hid, if_pos (Option.some_ne_none _)]
            exact ⟨_, w2, ms2, rfl, ⟨_, rfl, by simp, rfl⟩, m4, k5.trans m5, by omega⟩
          | ok val =>
            rw [hd] at hrel hnb
            obtain ⟨hn1, hn2⟩ := hrel
            rw [hn1, if_neg not_none_ne_none]
            have hrec := ih (pre ++ [oid]) (done ++ [(w2.scan pre.length v).1]) w2 ms2 b2 s2 f ho' (by simp [hdl]) m4
              hsc2 hns2 (by omega)
            rw [hcast] at hrec
            exact .from (k5.trans m5) (by omega) (c2_fields_cons hn2 hrec hnb)

/-- what `Read` returned, against the model's result (`none` = blocked: excluded) -/
def c2_ReadAgree (vm : AnyV → Val) (r : List AnyV × Option CErr) : Option BinRes → Prop
  | some (.row vals) => ∃ row, r = (row, none) ∧ row.map vm = vals
  | some .eof => r = ([], some (.lib .eof))
  | some (.err e) => ∃ e', r = ([], some e') ∧ e' ≠ .lib .eof ∧ absErr e' = e
  | none => False

theorem c2_len2 (v : Bytes) (h : v.length = 2) : ∃ x y, v = [x, y] := by
  match v, h with
  | [x, y], _ => exact ⟨x, y, rfl⟩

theorem tie_rowBody_sim (vm : AnyV → Val) (hvm : vm .nil = .null) (sim : c2_Sim L rest false oids w ms b s) (fuel : Nat)
    (hf : ms.length + oids.length + 3 ≤ fuel) (hsc : c2_ScanRel vm oids w.scan) (hns : w.bin.nscanners = oids.length)
    (hnb : (binRowBody b s).1 ≠ none) (hcov : (binRowBody b s).2.2.unsup = false) :
    c2_Ret L rest false oids (c2_ReadAgree vm) (c2_rowBody fuel w) w ms (binRowBody b s) := by
  unfold binRowBody at hnb hcov ⊢
  have h1 := tie_take_sim sim 2 fuel (by omega)
  generalize binTake 2 b s = t1 at hnb hcov h1
  obtain ⟨tr, b1, s1⟩ := t1
  cases tr with
  | blocked => exact absurd rfl hnb
  | err e =>
    obtain ⟨⟨v, e'⟩, w2, ms2, g1, ⟨rfl, ge⟩, g4, g5, g6⟩ := h1 nofun
    exact ⟨_, w2, ms2, tie_rowBody_take_err fuel w w2 v _ g1, ⟨_, rfl, by simp, ge.symm⟩, g4, g5, g6⟩
  | ok v =>
    obtain ⟨_, w2, ms2, g1, ⟨rfl, gl⟩, g4, g5, g6⟩ := h1 nofun
    obtain ⟨x, y, rfl⟩ := c2_len2 v gl
    have hboids : b1.oids = oids := by rw [g4.hb]; rfl
    have hns2 := g5.nscanners hns
    simp only [c2_fieldCount, hboids] at hnb hcov ⊢
    by_cases hc : c2_be16val x y = 65535
    · rw [if_pos hc] at hnb hcov ⊢
      obtain ⟨c1, c2, c3, c4, c5⟩ := tie_rowBody_trailer fuel w w2 x y [] g1 hc
      have h2 := tie_fill_sim 1 fuel (binFuel s1) g4 (by omega)
      generalize binFill 1 (binFuel s1) b1 s1 = t2 at hnb hcov h2
      obtain ⟨fr, b3, s3⟩ := t2
      cases fr with
      | blocked => exact absurd rfl hnb
      | err e =>
        obtain ⟨_, _, _, _, g, _⟩ := h2 trivial
        exact g.elim
      | eof =>
        obtain ⟨e', w3, ms3, k1, rfl, k4, k5, k6⟩ := h2 trivial
        exact ⟨_, w3, ms3, c1 w3 k1, rfl, k4, g5.trans k5, by omega⟩
      | ok =>
        obtain ⟨e', w3, ms3, k1, rfl, k4, k5, k6⟩ := h2 trivial
        exact ⟨_, w3, ms3, c3 w3 k1, ⟨_, rfl, by simp, c5⟩, k4, g5.trans k5, by omega⟩
    · rw [if_neg hc] at hnb hcov ⊢
      by_cases hn : c2_be16val x y ≠ oids.length
      · rw [if_pos hn]
        obtain ⟨t1, t2⟩ := tie_rowBody_count_mismatch fuel w w2 x y [] g1 hc (by rw [hns2]; exact hn)
        rw [hns2, c2_fieldCount] at t2
        rw [hns2] at t1
        exact ⟨_, w2, ms2, t1, ⟨_, rfl, by simp, t2⟩, g4, g5, g6⟩
      · rw [if_neg hn] at hnb hcov ⊢
        have hn' : c2_be16val x y = oids.length := by simpa using hn
        have hstart := tie_rowBody_fields fuel w w2 x y [] g1 hc (by rw [hns2]; exact hn')
        rw [hn'] at hstart
        have h3 := tie_fields_sim vm hvm none (oids.length : Nat) [x, y] oids [] [] w2 ms2 b1 s1 fuel rfl rfl g4
          (g5.scanRel hsc) hns2 (by omega)
        simp only [List.nil_append, List.length_nil] at h3
        rw [hstart]
        generalize binFields oids b1 s1 = t3 at hnb hcov h3
        obtain ⟨fr, b3, s3⟩ := t3
        cases fr with
        | blocked => exact absurd rfl hnb
        | unsupported => cases hcov
        | err e => exact .from g5 g6 ((h3 trivial).mono fun a h => h)
        | ok vals => exact .from g5 g6 ((h3 trivial).mono fun a ⟨tl, q1, q2⟩ => ⟨tl, by rw [q1]; simp, q2⟩)

theorem tie_rowStart_sim (vm : AnyV → Val) (hvm : vm .nil = .null) (sim : c2_Sim L rest false oids w ms b s) (fuel : Nat)
    (hf : ms.length + oids.length + 3 ≤ fuel) (hsc : c2_ScanRel vm oids w.scan) (hns : w.bin.nscanners = oids.length)
    (hnb : (binRowStart b s).1 ≠ none) (hcov : (binRowStart b s).2.2.unsup = false) :
    c2_Ret L rest false oids (c2_ReadAgree vm) (c2_rowPart fuel w) w ms (binRowStart b s) := by
  unfold binRowStart at hnb hcov ⊢
  have h1 := tie_fill_sim 2 fuel (binFuel s) sim (by omega)
  generalize binFill 2 (binFuel s) b s = t1 at hnb hcov h1
  obtain ⟨fr, b1, s1⟩ := t1
  -- `fill(2)` returned nil, or `io.EOF` with a byte pending: the row body, from the states `fill` left
  have body : ∀ (e0 : Option CErr) (w1 : CWorld) (ms1 : List (UInt8 × Bytes)),
      TransCopy.BinaryCopyReader_fill fuel ((2 : Nat) : Int) w = .ok e0 w1 →
      (e0 = none ∨ (e0 = some (.lib .eof) ∧ w1.bin.pending ≠ [])) →
      c2_Sim L rest false oids w1 ms1 b1 s1 → c2_Same w w1 → ms1.length ≤ ms.length →
      (binRowBody b1 s1).1 ≠ none → (binRowBody b1 s1).2.2.unsup = false →
      c2_Ret L rest false oids (c2_ReadAgree vm) (c2_rowPart fuel w) w ms (binRowBody b1 s1) := by
    intro e0 w1 ms1 k1 ke k4 k5 k6 hnb hcov
    rw [tie_rowPart_body fuel w w1 e0 k1 ke]
    exact .from k5 k6 (tie_rowBody_sim vm hvm k4 fuel (by omega) (k5.scanRel hsc) (k5.nscanners hns) hnb hcov)
  cases fr with
  | blocked => exact absurd rfl hnb
  | err e =>
    obtain ⟨_, _, _, _, g, _⟩ := h1 trivial
    exact g.elim
  | ok =>
    obtain ⟨e', w1, ms1, k1, rfl, k4, k5, k6⟩ := h1 trivial
    exact body _ w1 ms1 k1 (Or.inl rfl) k4 k5 k6 hnb hcov
  | eof =>
    obtain ⟨e', w1, ms1, k1, rfl, k4, k5, k6⟩ := h1 trivial
    have hpend : b1.pending = w1.bin.pending := by rw [k4.hb]; rfl
    simp only [hpend] at hnb hcov ⊢
    cases hpe : w1.bin.pending with
    | nil => exact ⟨_, w1, ms1, tie_rowPart_eof fuel w w1 k1 hpe, rfl, k4, k5, k6⟩
    | cons x xs =>
      rw [hpe] at hnb hcov
      exact body _ w1 ms1 k1 (Or.inr ⟨rfl, by rw [hpe]; simp⟩) k4 k5 k6 hnb hcov

end

/-- `BinaryCopyReader.Read` against `binRead`, on a stream of complete messages (types 'd', 'H', 'S', 'c') within
    which the model's `binRead` is decided, with scanners that behave like the model's `decodeVal` (`c2_ScanRel`) and stay
    inside its coverage (`s'.unsup = false`): the translated `Read` returns what the model returns (`c2_ReadAgree`: the row
    through `vm`, `io.EOF`, or an error whose `absErr` is the model's error), and the two are left in corresponding states
    again, so the statement applies to the next call. -/
theorem tie_binRead_sim (vm : AnyV → Val) (hvm : vm .nil = .null) {L : Nat} {rest : Bytes} {oids : List Nat} {w : CWorld}
    {ms : List (UInt8 × Bytes)} {b : Bin} {s : Inp} (sim : c2_Sim L rest false oids w ms b s) (fuel : Nat)
    (hf : ms.length + oids.length + 3 ≤ fuel) (hsc : c2_ScanRel vm oids w.scan) (hns : w.bin.nscanners = oids.length)
    (hctx : w.ctxErr = none)
    (res : Option BinRes) (b' : Bin) (s' : Inp) (h : binRead b s = (res, b', s')) (hnb : res ≠ none)
    (hcov : s'.unsup = false) :
    ∃ r w' ms', TransCopy.BinaryCopyReader_Read fuel w = .ok r w' ∧ c2_ReadAgree vm r res ∧
      c2_Sim L rest false oids w' ms' b' s' ∧
      (w'.bin.started = true ∧ w'.bin.nscanners = w.bin.nscanners ∧ w'.ctxErr = w.ctxErr ∧ w'.scan = w.scan) ∧
      ms'.length ≤ ms.length := by
  have hbs : b.started = w.bin.started := by rw [sim.hb]; rfl
  have hnb' : (binRead b s).1 ≠ none := by rw [h]; exact hnb
  have hcov' : (binRead b s).2.2.unsup = false := by rw [h]; exact hcov
  unfold binRead at h hnb' hcov'
  cases hst : w.bin.started with
  | true =>
    rw [hbs, hst] at h hnb' hcov'
    simp only [if_true] at h hnb' hcov'
    have t := tie_rowStart_sim vm hvm sim fuel hf hsc hns hnb' hcov'
    rw [tie_binRead_started fuel w hctx hst]
    rw [h] at t
    obtain ⟨r, w', ms', q1, q2, q3, q4, q5⟩ := t
    exact ⟨r, w', ms', q1, q2, q3, ⟨q4.1.trans hst, q4.2.1, q4.2.2.1, q4.2.2.2⟩, q5⟩
  | false =>
    rw [hbs, hst] at h hnb' hcov'
    simp only [Bool.false_eq_true, if_false] at h hnb' hcov'
    -- the goal is the judgement from the world in which `started` has been set (its `c2_Same` unfolds to the fourth
    -- conjunct)
    show c2_Ret L rest false oids (c2_ReadAgree vm) (TransCopy.BinaryCopyReader_Read fuel w)
        { w with bin := { w.bin with started := true } } ms (res, b', s')
    have sim0 : c2_Sim L rest false oids { w with bin := { w.bin with started := true } } ms
        { b with started := true } s :=
      ⟨sim.ok, sim.hL, sim.st, sim.al, by rw [sim.hb]; rfl, sim.hs⟩
    rw [← h, tie_binRead_fresh fuel w hctx hst]
    have h1 := tie_skipHeader_sim sim0 fuel (by omega)
    generalize binSkipHeader { b with started := true } s = t1 at hnb' hcov' h1 ⊢
    obtain ⟨sr, b1, s1⟩ := t1
    cases sr with
    | blocked => exact absurd rfl hnb'
    | err e =>
      refine (h1 nofun).bind fun e0 w1 ms1 ⟨e', he0, he⟩ sim1 _ _ => ?_
      rw [he0, if_pos (Option.some_ne_none e')]
      exact .ret sim1 ⟨.wrap c2_hdrText [] e', rfl, c2_wrap_ne_eof _ _ _, by rw [he]; exact absErr_wrap "unexpected header: " e'⟩
    | ok =>
      refine (h1 nofun).bind fun e0 w1 ms1 he0 sim1 same1 l1 => ?_
      rw [he0, if_neg not_none_ne_none]
      exact tie_rowStart_sim vm hvm sim1 fuel (by omega) (same1.scanRel hsc) (same1.nscanners hns) hnb' hcov'

/-- a `.msg` item takes at least its 5 header bytes off the stream -/
theorem c2_readItem_rest_lt (L : Nat) (inp : Bytes) (t : UInt8) (body rest : Bytes)
    (h : readItem L inp = some (.msg t body, rest)) : rest.length + 5 ≤ inp.length := by
  obtain ⟨_, _, _, _, r, rfl, _, _, _, _, hr⟩ := readItem_msg_inv h
  rw [hr]; simp

/-- `c2_Stream` in the terms of Model/Reader.lean: when nothing follows the messages, `deframe` of the stream (`deframeAux`
    with fuel `src.length`) is exactly these messages — so `c2_inp L ms …` is the `Inp` with `items := deframe L w.base.src` -/
theorem c2_stream_deframe (L : Nat) : ∀ (ms : List (UInt8 × Bytes)) (src : Bytes) (fuel : Nat),
    c2_Stream L ms src [] → src.length ≤ fuel → deframeAux L fuel src = c2_items ms := by
  intro ms
  induction ms with
  | nil =>
    intro src fuel hs _
    have : src = [] := hs
    subst this
    cases fuel <;> simp [deframeAux, readItem, c2_items]
  | cons p ms ih =>
    intro src fuel hs hf
    obtain ⟨r, hri, hs1⟩ := hs
    have hlt := c2_readItem_rest_lt L src p.1 p.2 r hri
    obtain ⟨f, rfl⟩ : ∃ f, fuel = f + 1 := ⟨fuel - 1, by omega⟩
    simp only [deframeAux, hri, c2_items, List.map_cons]
    rw [← c2_items, ih r f hs1 (by omega)]

/-- the model input a translated world stands for -/
def c2_absInp (w : CWorld) : Inp :=
  { L := w.base.reader.MaxMessageSize.toNat,
    items := deframe w.base.reader.MaxMessageSize.toNat w.base.src,
    tail := (match w.base.fin with
      | .wait => .wait
      | .rerr => .rerr
      | .eof => .eof (leftover w.base.reader.MaxMessageSize.toNat w.base.src != [])),
    msg := w.base.reader.Msg.data }

/-- the simulation relation with nothing behind the messages and a waiting transport is `s = c2_absInp w` -/
theorem c2_Sim_absInp {L : Nat} {oids : List Nat} {w : CWorld} {ms : List (UInt8 × Bytes)} {b : Bin} {s : Inp}
    (sim : c2_Sim L [] false oids w ms b s) (hfin : w.base.fin = .wait) : s = c2_absInp w ∧ b = c2_bin oids w := by
  refine ⟨?_, sim.hb⟩
  have hd : deframe L w.base.src = c2_items ms := c2_stream_deframe L ms _ _ sim.st (Nat.le_refl _)
  rw [sim.hs]
  unfold c2_absInp c2_inp
  rw [sim.hL, hd, hfin]

/-! ### concrete worlds: the hypotheses are satisfiable, and the translated code returns what the theorems say -/

-- `tie_takeLength_ok`: its hypothesis, and both branches of its conclusion
example : obs (TransCopy.BinaryCopyReader_take 5 4 (exWorld (frame 100 [0, 0, 1, 0, 9])))
    = some (([0, 0, 1, 0], none), [], [], [9]) := by decide +kernel
example : be32val 0 0 1 0 = 256 := by decide
example : (obs (TransCopy.BinaryCopyReader_takeLength 5 (exWorld (frame 100 [0, 0, 1, 0, 9])))).map (·.1)
    = some (0, some (.errorf lengthFmt [256, 100])) := by rw [lengthFmt, ascii_ofList]; decide +kernel
example : absErr (.errorf lengthFmt [256, 100]) = .lib (errLengthExceeds 256 100) :=
  tie_takeLength_ok_abs 256 100 (by decide)
example : (obs (TransCopy.BinaryCopyReader_takeLength 5 (exWorld (frame 100 [0, 0, 0, 100, 9])))).map (·.1)
    = some (100, none) := by decide +kernel

-- `skipHeader` with the signature present: flags and an extension area of 2 bytes are consumed, one byte stays
def c2_exHeader (ext : Bytes) : Bytes := TransCopy.CopySignature ++ [0, 0, 0, 0] ++ ext
example : hasPrefix (c2_exHeader [0, 0, 0, 2, 9, 9] ++ [1]) TransCopy.CopySignature = true := by decide
example : obs (TransCopy.BinaryCopyReader_skipHeader 9 (exWorld (frame 100 (c2_exHeader [0, 0, 0, 2, 9, 9] ++ [1]))))
    = some (none, [], [], [1]) := by decide +kernel
-- an extension-area length of 0xFFFFFFFF (`tie_skipHeader_ext_null`); above the limit (`tie_skipHeader_extlen_err`);
-- the extension area cut short by CopyDone (`tie_skipHeader_ext_cases`)
example : (obs (TransCopy.BinaryCopyReader_skipHeader 9 (exWorld (frame 100 (c2_exHeader [255, 255, 255, 255]))))).map (·.1)
    = some (some (.new c2_extText)) := by rw [c2_extText, ascii_ofList]; decide +kernel
example : (obs (TransCopy.BinaryCopyReader_skipHeader 9 (exWorld (frame 100 (c2_exHeader [0, 0, 0, 101]))))).map (·.1)
    = some (some (.errorf lengthFmt [101, 100])) := by rw [lengthFmt, ascii_ofList]; decide +kernel
example : (obs (TransCopy.BinaryCopyReader_skipHeader 9 (exWorld (frame 100 (c2_exHeader [0, 0, 0, 2, 9]) ++ frame 99 [])))).map (·.1)
    = some (some (.lib .unexpectedEOF)) := by decide +kernel

-- `tie_fill_stream` / `tie_take_stream`: Sync, two CopyData, CopyDone
def c2_exMs : List (UInt8 × Bytes) := [(83, []), (100, [1]), (100, [2, 3]), (99, [])]
def c2_exSrc : Bytes := frame 83 [] ++ frame 100 [1] ++ frame 100 [2, 3] ++ frame 99 []
theorem c2_exStream : c2_Stream 100 c2_exMs c2_exSrc [] := by
  -- per message: what `readItem` leaves behind it, and that it cuts this message off
  refine ⟨frame 100 [1] ++ frame 100 [2, 3] ++ frame 99 [], by decide +kernel, ?_⟩
  refine ⟨frame 100 [2, 3] ++ frame 99 [], by decide +kernel, ?_⟩
  refine ⟨frame 99 [], by decide +kernel, ?_⟩
  exact ⟨[], by decide +kernel, rfl⟩
theorem c2_exAllowed : c2_Allowed c2_exMs := by
  intro p hp
  simp [c2_exMs] at hp
  rcases hp with rfl | rfl | rfl | rfl <;> simp
-- the model on these messages: `fill(2)` needs both CopyData, `fill(4)` runs into CopyDone
example : (binFill 2 9 (c2_bin [] (exWorld c2_exSrc)) (c2_inp 100 c2_exMs [] false)).2.1.pending = [1, 2, 3] ∧
    (binFill 2 9 (c2_bin [] (exWorld c2_exSrc)) (c2_inp 100 c2_exMs [] false)).2.2.items = [.msg 99 []] := by
  decide +kernel
example : ∃ e w' ms', TransCopy.BinaryCopyReader_fill 9 ((3 : Nat) : Int) (exWorld c2_exSrc) = .ok e w' ∧
    (binFill 3 9 (c2_bin [] (exWorld c2_exSrc)) (c2_inp 100 c2_exMs [] false)).1 = c2_absFill e ∧
    (binFill 3 9 (c2_bin [] (exWorld c2_exSrc)) (c2_inp 100 c2_exMs [] false)).2.1 = c2_bin [] w' ∧
    c2_Stream 100 ms' w'.base.src [] := by
  have hnb : c2_NotBlocked (binFill 3 9 (c2_bin [] (exWorld c2_exSrc)) (c2_inp 100 c2_exMs [] false)).1 := by
    decide +kernel
  obtain ⟨e, w', ms', g1, g2, g3, _, _, _, _, g8, _⟩ :=
    tie_fill_stream 100 [] false [] 3 9 c2_exMs (exWorld c2_exSrc) 9 (exWorld_ok _ _) rfl c2_exStream c2_exAllowed
      (by decide) _ _ _ rfl hnb
  exact ⟨e, w', ms', g1, g2, g3, g8⟩
example : obs (TransCopy.BinaryCopyReader_fill 9 3 (exWorld c2_exSrc)) = some (none, [], frame 99 [], [1, 2, 3]) := by
  decide +kernel
example : obs (TransCopy.BinaryCopyReader_fill 9 4 (exWorld c2_exSrc)) = some (some (.lib .eof), [], [], [1, 2, 3]) := by
  decide +kernel

-- `Read`: the file trailer followed by CopyDone → io.EOF; followed by more data → the trailer error
example : (obs (TransCopy.BinaryCopyReader_Read 9 (exWorld (frame 100 (c2_exHeader [0, 0, 0, 0] ++ [255, 255]) ++ frame 99 [])))).map (·.1)
    = some ([], some (.lib .eof)) := by decide +kernel
example : (obs (TransCopy.BinaryCopyReader_Read 9 (exWorld (frame 100 (c2_exHeader [0, 0, 0, 0] ++ [255, 255]) ++ frame 100 [7])))).map (·.1)
    = some ([], some (.new c2_trailerText)) := by rw [c2_trailerText, ascii_ofList]; decide +kernel
-- two fields for one column: the field-count error, in the model's text
example : (obs (TransCopy.BinaryCopyReader_Read 9 (exWorld (frame 100 (c2_exHeader [0, 0, 0, 0] ++ [0, 2]))))).map (·.1)
    = some ([], some (.errorf c2_fieldFmt [1, 2])) := by rw [c2_fieldFmt, ascii_ofList]; decide +kernel
example : absErr (.errorf c2_fieldFmt [1, 2]) = .lib (errFieldCount 1 2) := absErr_fieldCount 1 2
-- a NULL field: the row entry stays nil (the scanner of `exWorld` would have returned `.val _`)
example : (obs (TransCopy.BinaryCopyReader_Read 9 (exWorld (frame 100 (c2_exHeader [0, 0, 0, 0] ++ [0, 1, 255, 255, 255, 255]))))).map (·.1)
    = some ([.nil], none) := by decide +kernel
-- a field cut short: "unexpected value: %w"
example : (obs (TransCopy.BinaryCopyReader_Read 9 (exWorld (frame 100 (c2_exHeader [0, 0, 0, 0] ++ [0, 1, 0, 0, 0, 2, 7]) ++ frame 99 [])))).map (·.1)
    = some ([], some (.wrap c2_valueText [] (.lib .unexpectedEOF))) := by rw [c2_valueText, ascii_ofList]; decide +kernel
-- a header error is wrapped: "unexpected header: %w"
example : (obs (TransCopy.BinaryCopyReader_Read 9 (exWorld (frame 100 (c2_exHeader [255, 255, 255, 255]))))).map (·.1)
    = some ([], some (.wrap c2_hdrText [] (.new c2_extText))) := by
  rw [c2_hdrText, c2_extText, ascii_ofList, ascii_ofList]; decide +kernel

-- `tie_binRead_sim` on a table without columns: header, one (empty) row, trailer in one CopyData, then CopyDone.
-- First call: the row; second call (from the states the first left, by the theorem again): io.EOF.
def c2_exWorld0 (src : Bytes) : CWorld :=
  { base := { reader := { MaxMessageSize := 100 }, src := src, fin := .wait }, bin := { nscanners := 0 } }
def c2_exMs0 : List (UInt8 × Bytes) := [(100, c2_exHeader [0, 0, 0, 0] ++ [0, 0] ++ [255, 255]), (99, [])]
def c2_exSrc0 : Bytes := frame 100 (c2_exHeader [0, 0, 0, 0] ++ [0, 0] ++ [255, 255]) ++ frame 99 []
theorem c2_exSim0 : c2_Sim 100 [] false [] (c2_exWorld0 c2_exSrc0) c2_exMs0 (c2_bin [] (c2_exWorld0 c2_exSrc0))
    (c2_inp 100 c2_exMs0 [] false) :=
  ⟨exWorld_ok c2_exSrc0 .wait, rfl,
   ⟨frame 99 [], by decide +kernel, [], by decide +kernel, rfl⟩,
   by intro p hp; simp [c2_exMs0] at hp; rcases hp with rfl | rfl <;> simp, rfl, rfl⟩
theorem c2_scanRel0 (vm : AnyV → Val) (scan : Nat → Bytes → AnyV × Option CErr) : c2_ScanRel vm [] scan := by
  intro pre oid os v h; simp at h
theorem c2_exRead0 : (binRead (c2_bin [] (c2_exWorld0 c2_exSrc0)) (c2_inp 100 c2_exMs0 [] false)).1 = some (.row []) := by
  decide +kernel
example : (binRead (c2_bin [] (c2_exWorld0 c2_exSrc0)) (c2_inp 100 c2_exMs0 [] false)).1 = some (.row []) := c2_exRead0
theorem c2_prod_eta {α β γ : Type} (p : α × β × γ) : p = (p.1, p.2.1, p.2.2) := rfl
example : ∃ (r : List AnyV × Option CErr) (w' : CWorld) (ms' : List (UInt8 × Bytes)),
    TransCopy.BinaryCopyReader_Read 9 (c2_exWorld0 c2_exSrc0) = .ok r w' ∧
    c2_ReadAgree (fun _ => Val.null) r (some (.row [])) ∧ w'.bin.started = true ∧ ms'.length ≤ 2 := by
  have h2 : (binRead (c2_bin [] (c2_exWorld0 c2_exSrc0)) (c2_inp 100 c2_exMs0 [] false)).2.2.unsup = false := by
    decide +kernel
  obtain ⟨r, w', ms', q1, q2, q3, q4, q5⟩ :=
    tie_binRead_sim (fun _ => Val.null) rfl c2_exSim0 9 (by decide) (c2_scanRel0 _ _) rfl rfl _ _ _ (c2_prod_eta _)
      (by rw [c2_exRead0]; simp) h2
  rw [c2_exRead0] at q2
  exact ⟨r, w', ms', q1, q2, q4.1, q5⟩
-- the same run computed: the row, then io.EOF
example : (obs (TransCopy.BinaryCopyReader_Read 9 (c2_exWorld0 c2_exSrc0))).map (·.1) = some ([], none) := by decide +kernel
example : (match TransCopy.BinaryCopyReader_Read 9 (c2_exWorld0 c2_exSrc0) with
           | .ok _ w => (obs (TransCopy.BinaryCopyReader_Read 9 w)).map (·.1)
           | _ => none) = some ([], some (.lib .eof)) := by decide +kernel

-- `tie_binRead_sim` with one bool column: `c2_ScanRel` holds for a scanner that decodes like the model
theorem c2_decodeBool (v : Bytes) :
    decodeVal 16 1 (some v) = match v with | [x] => .ok (.bool (x = 1)) | _ => .err := rfl

/-- a one-column (bool) world: the scanner returns `val 1` / `val 0` for a one-byte value, an external error otherwise -/
def c2_boolScan : Nat → Bytes → AnyV × Option CErr := fun _ v =>
  match v with
  | [x] => (.val (if x = 1 then 1 else 0), none)
  | _ => (.nil, some (.ext 7))
def c2_boolVm : AnyV → Val
  | .nil => .null
  | .val n => .bool (n = 1)

theorem c2_boolScanRel : c2_ScanRel c2_boolVm [16] c2_boolScan := by
  intro pre oid os v h
  cases pre with
  | cons a pre => simp at h
  | nil =>
    simp at h
    obtain ⟨rfl, rfl⟩ := h
    rw [c2_decodeBool]
    match v with
    | [] => exact ⟨7, rfl⟩
    | [x] =>
      refine ⟨rfl, ?_⟩
      by_cases hx : x = 1 <;> simp [c2_boolScan, c2_boolVm, hx]
    | _ :: _ :: _ => exact ⟨7, rfl⟩

def c2_exWorld1 (src : Bytes) : CWorld :=
  { base := { reader := { MaxMessageSize := 100 }, src := src, fin := .wait }, bin := { nscanners := 1 },
    scan := c2_boolScan }
/-- header; a row `true`; a row NULL; a row whose value has two bytes -/
def c2_exData1 : Bytes :=
  c2_exHeader [0, 0, 0, 0] ++ [0, 1, 0, 0, 0, 1, 1] ++ [0, 1, 255, 255, 255, 255] ++ [0, 1, 0, 0, 0, 2, 1, 1]
def c2_exMs1 : List (UInt8 × Bytes) := [(100, c2_exData1), (99, [])]
def c2_exSrc1 : Bytes := frame 100 c2_exData1 ++ frame 99 []
theorem c2_exSim1 : c2_Sim 100 [] false [16] (c2_exWorld1 c2_exSrc1) c2_exMs1 (c2_bin [16] (c2_exWorld1 c2_exSrc1))
    (c2_inp 100 c2_exMs1 [] false) :=
  ⟨exWorld_ok c2_exSrc1 .wait, rfl,
   ⟨frame 99 [], by decide +kernel, [], by decide +kernel, rfl⟩,
   by intro p hp; simp [c2_exMs1] at hp; rcases hp with rfl | rfl <;> simp, rfl, rfl⟩
example : ∃ (r : List AnyV × Option CErr) (w' : CWorld),
    TransCopy.BinaryCopyReader_Read 9 (c2_exWorld1 c2_exSrc1) = .ok r w' ∧
    c2_ReadAgree c2_boolVm r (some (.row [.bool true])) ∧ w'.bin.started = true := by
  have h1 : (binRead (c2_bin [16] (c2_exWorld1 c2_exSrc1)) (c2_inp 100 c2_exMs1 [] false)).1 = some (.row [.bool true]) := by
    decide +kernel
  have h2 : (binRead (c2_bin [16] (c2_exWorld1 c2_exSrc1)) (c2_inp 100 c2_exMs1 [] false)).2.2.unsup = false := by
    decide +kernel
  obtain ⟨r, w', ms', q1, q2, q3, q4, q5⟩ :=
    tie_binRead_sim c2_boolVm rfl c2_exSim1 9 (by decide) c2_boolScanRel rfl rfl _ _ _ (c2_prod_eta _)
      (by rw [h1]; simp) h2
  rw [h1] at q2
  exact ⟨r, w', q1, q2, q4.1⟩
-- the same run computed: `val 1`; then the NULL row (`nil`: no scanner call); then the scanner's error, unwrapped
example : (obs (TransCopy.BinaryCopyReader_Read 9 (c2_exWorld1 c2_exSrc1))).map (·.1) = some ([.val 1], none) := by
  decide +kernel
example : (match TransCopy.BinaryCopyReader_Read 9 (c2_exWorld1 c2_exSrc1) with
           | .ok _ w => (obs (TransCopy.BinaryCopyReader_Read 9 w)).map (·.1)
           | _ => none) = some ([.nil], none) := by decide +kernel
example : (match TransCopy.BinaryCopyReader_Read 9 (c2_exWorld1 c2_exSrc1) with
           | .ok _ w => (match TransCopy.BinaryCopyReader_Read 9 w with
             | .ok _ w => (obs (TransCopy.BinaryCopyReader_Read 9 w)).map (·.1)
             | _ => none)
           | _ => none) = some ([], some (.ext 7)) := by decide +kernel

end Pw.Tie
