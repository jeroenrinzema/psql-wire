import Pw.Props.C06
import Pw.Props.C07
import Pw.Spec.Ext
/-
  C06 — refinement: the command loop of the model refines the reference machine `Spec.extStepG`
  (Spec/Ext.lean), the same machine that is replayed as the oracle over the implementation's
  per-message reply groups.
-/
namespace Pw
open Pw.Spec Pw.Props.C05

/-- the type letter of a backend message, as the oracle sees it on the wire -/
def tagChar (m : BMsg) : Char := Char.ofNat m.tag.toNat

/-- a handler program adds only DataRow / CommandComplete / CopyInResponse messages and no
    parser / statement-function events of its own -/
theorem runProg_shape : ∀ (p : Prog) (d : DW) (s : Sess), s.wleft = none →
    ∃ new nev, Adds s (runProg p d s).2 new nev ∧ (∀ m ∈ new, isDCG m = true) ∧ nev.countP isCallback = 0 :=
  fun p d s _ => (runProg_reach p d s).adds

/-! ### the abstraction relation and the reply of one message -/

/-- the parser predicate the specification is instantiated with -/
def oneOf (h : Handlers) (q : Bytes) : Bool := match h.parse q with | .ok [_] => true | _ => false

def Rel (s : Sess) (st : ExtState) : Prop :=
  st.skipping = s.discard ∧ st.closed = false ∧
  (∀ n, st.stmts.contains n = (lookup n s.stmts).isSome) ∧
  (∀ n, st.portals.contains n = (lookup n s.portals).isSome)

theorem Rel.skipping {s : Sess} {st : ExtState} (h : Rel s st) : st.skipping = s.discard := h.1
theorem Rel.closed {s : Sess} {st : ExtState} (h : Rel s st) : st.closed = false := h.2.1
theorem Rel.stmts {s : Sess} {st : ExtState} (h : Rel s st) (n : Bytes) :
    st.stmts.contains n = (lookup n s.stmts).isSome := h.2.2.1 n
theorem Rel.portals {s : Sess} {st : ExtState} (h : Rel s st) (n : Bytes) :
    st.portals.contains n = (lookup n s.portals).isSome := h.2.2.2 n

/-- oldest first, as type letters -/
def replyOf (new : List BMsg) : List Char := new.reverse.map tagChar

theorem contains_store {α} (l : List Bytes) (m : List (Bytes × α)) (name : Bytes) (v : α)
    (h : ∀ n, l.contains n = (lookup n m).isSome) :
    ∀ n, (name :: rm name l).contains n = (lookup n (store name v m)).isSome := by
  intro n
  by_cases hn : n = name
  · subst hn; simp [Pw.Props.C07.lookup_store_same]
  · rw [Pw.Props.C07.lookup_store_other name n v m hn, ← h n]
    simp [rm, List.mem_filter, hn]

theorem contains_remove {α} (l : List Bytes) (m : List (Bytes × α)) (name : Bytes)
    (h : ∀ n, l.contains n = (lookup n m).isSome) :
    ∀ n, (rm name l).contains n = (lookup n (remove name m)).isSome := by
  intro n
  by_cases hn : n = name
  · subst hn; simp [Pw.Props.C07.lookup_remove_same, rm, List.contains_eq_mem, List.mem_filter]
  · rw [Pw.Props.C07.lookup_remove_other name n m hn, ← h n]
    simp [rm, List.contains_eq_mem, List.mem_filter, hn]

theorem mem_of_lookup {α} {l : List Bytes} {m : List (Bytes × α)} (h : ∀ n, l.contains n = (lookup n m).isSome)
    {n : Bytes} {x : α} (hl : lookup n m = some x) : n ∈ l := by
  have := h n
  rw [hl] at this
  simpa using this

theorem not_mem_of_lookup {α} {l : List Bytes} {m : List (Bytes × α)} (h : ∀ n, l.contains n = (lookup n m).isSome)
    {n : Bytes} (hl : lookup n m = none) : n ∉ l := by
  have := h n
  rw [hl] at this
  simpa using this

theorem tag_error (b : Bytes) : tagChar (.error b) = 'E' := by simp [tagChar, BMsg.tag, ch]
theorem tag_ready (x : UInt8) : tagChar (.ready x) = 'Z' := by simp [tagChar, BMsg.tag, ch]
theorem tag_parseComplete : tagChar .parseComplete = '1' := by simp [tagChar, BMsg.tag, ch]
theorem tag_bindComplete : tagChar .bindComplete = '2' := by simp [tagChar, BMsg.tag, ch]
theorem tag_closeComplete : tagChar .closeComplete = '3' := by simp [tagChar, BMsg.tag, ch]
theorem tag_noData : tagChar .noData = 'n' := by simp [tagChar, BMsg.tag, ch]
theorem tag_paramDesc (o : List Nat) : tagChar (.paramDesc o) = 't' := by simp [tagChar, BMsg.tag, ch]
theorem tag_rowDesc (c : List (ColDesc × Nat)) : tagChar (.rowDesc c) = 'T' := by simp [tagChar, BMsg.tag, ch]
theorem tag_emptyQuery : tagChar .emptyQuery = 'I' := by simp [tagChar, BMsg.tag, ch]

theorem tag_dcg (m : BMsg) (h : isDCG m = true) : tagChar m = 'D' ∨ tagChar m = 'C' ∨ tagChar m = 'G' := by
  cases m <;> simp [isDCG] at h
  · left; simp [tagChar, BMsg.tag, ch]
  · right; left; simp [tagChar, BMsg.tag, ch]
  · right; right; simp [tagChar, BMsg.tag, ch]

def Refines (h : Handlers) (L : Nat) (t : UInt8) (s s' : Sess) (st : ExtState) : Prop :=
  ∃ new nev st', s'.out = new ++ s.out ∧ s'.ev = nev ++ s.ev ∧ s'.wleft = none ∧
    extStepG (oneOf h) L st (.msg t s.inp.msg) (replyOf new) (nev.countP isCallback) = .ok st' ∧ Rel s' st'

/-! ### reply shapes -/

def okExec (c : Char) : Prop := c = 'D' ∨ c = 'C' ∨ c = 'G'
def okSimple (c : Char) : Prop := c = 'T' ∨ c = 'D' ∨ c = 'C' ∨ c = 'G'

theorem isSeq_exec (ts : List Char) (h : ∀ c ∈ ts, okExec c) : isSeq ['D', 'C', 'G'] ts = true := by
  simp only [isSeq, List.all_eq_true]
  intro c hc
  rcases h c hc with rfl | rfl | rfl <;> decide

theorem isSeq_simple (ts : List Char) (h : ∀ c ∈ ts, okSimple c) : isSeq ['T', 'D', 'C', 'G'] ts = true := by
  simp only [isSeq, List.all_eq_true]
  intro c hc
  rcases h c hc with rfl | rfl | rfl | rfl <;> decide

theorem stripE_none (ts : List Char) (h : 'E' ∉ ts) : stripE ts = ts := by
  unfold stripE
  split
  · rename_i r heq
    have : 'E' ∈ ts.reverse := by rw [heq]; simp
    exact absurd (List.mem_reverse.mp this) h
  · rfl

theorem stripE_some (ts : List Char) : stripE (ts ++ ['E']) = ts := by
  simp [stripE]

theorem executeShape_plain (ts : List Char) (h : ∀ c ∈ ts, okExec c) :
    executeShape ts = true ∧ ts.getLast? ≠ some 'E' := by
  have hE : 'E' ∉ ts := by
    intro hm; rcases h _ hm with h | h | h <;> simp at h
  constructor
  · unfold executeShape; rw [stripE_none ts hE]; exact isSeq_exec ts h
  · intro hl
    have := List.mem_of_getLast? hl
    exact hE this

theorem executeShape_err (ts : List Char) (h : ∀ c ∈ ts, okExec c) :
    executeShape (ts ++ ['E']) = true ∧ (ts ++ ['E']).getLast? = some 'E' := by
  constructor
  · unfold executeShape; rw [stripE_some]; exact isSeq_exec ts h
  · simp

theorem simpleShape_snoc (body : List Char) :
    simpleShape (body ++ ['Z']) = (body = ['I'] || isSeq ['T', 'D', 'C', 'G'] (stripE body)) := by
  simp [simpleShape]

theorem simpleShape_ok (ts : List Char) (h : ∀ c ∈ ts, okSimple c) (e : Bool) :
    simpleShape (ts ++ (if e then ['E'] else []) ++ ['Z']) = true := by
  rw [simpleShape_snoc]
  cases e with
  | true => rw [if_pos rfl, stripE_some, isSeq_simple ts h, Bool.or_true]
  | false =>
    have hE : 'E' ∉ ts := by
      intro hm; rcases h _ hm with h | h | h | h <;> simp at h
    rw [if_neg Bool.false_ne_true, List.append_nil, stripE_none ts hE, isSeq_simple ts h, Bool.or_true]

theorem replyOf_forall {P : Char → Prop} (new : List BMsg) (h : ∀ m ∈ new, P (tagChar m)) : ∀ c ∈ replyOf new, P c := by
  intro c hc
  simp only [replyOf, List.mem_map, List.mem_reverse] at hc
  obtain ⟨m, hm, rfl⟩ := hc
  exact h m hm

theorem tag_tdcg (m : BMsg) (h : isTDCG m = true) : okSimple (tagChar m) := by
  unfold isTDCG at h
  split at h
  · exact Or.inl (tag_rowDesc _)
  · exact Or.inr (tag_dcg m h)

/-- the whole statement loop of a simple query that goes on: rows/descriptions/completions, then
    at most one ErrorResponse, then ReadyForQuery; nothing else in the session changes -/
theorem runStatements_shape : ∀ (sts : List Stmt) (s s' : Sess), s.wleft = none → runStatements sts s = .cont s' →
    ∃ body nev, (∃ eb : Bool, ∃ b, s'.out = .ready (ch 'I') :: ((if eb then [BMsg.error b] else []) ++ body) ++ s.out) ∧
      (∀ m ∈ body, isTDCG m = true) ∧ s'.ev = nev ++ s.ev ∧ s'.wleft = none ∧
      s'.stmts = s.stmts ∧ s'.portals = s.portals ∧ s'.discard = s.discard := by
  intro sts s s' hw hc
  obtain ⟨body, nev, eb, b, a, hb⟩ := runStatements_cycle sts s s' hc
  exact ⟨body, nev, ⟨eb, b, a.out⟩, hb, a.ev, a.wl hw, a.stmts, a.portals, a.discard⟩

theorem Rel.of_adds {s s' : Sess} {st : ExtState} {new : List BMsg} {nev : List Event} (hr : Rel s st)
    (a : Adds s s' new nev) : Rel s' st :=
  ⟨by rw [a.discard]; exact hr.skipping, hr.closed, fun n => by rw [a.stmts]; exact hr.stmts n,
   fun n => by rw [a.portals]; exact hr.portals n⟩

/-- A message answered from `s1` (which has added `new` and `nev` to `s`) by one more reply `m`:
    what is left to show is that the reference machine admits the reply group, and `Rel`. -/
theorem refines_send {h : Handlers} {L : Nat} {t : UInt8} {s s1 s' : Sess} {st st' : ExtState} {m : BMsg}
    {new : List BMsg} {nev : List Event} (hc : afterWrite (s1.send m) = .cont s')
    (ho : s1.out = new ++ s.out) (he : s1.ev = nev ++ s.ev) (hwl : s1.wleft = none)
    (hspec : extStepG (oneOf h) L st (.msg t s.inp.msg) (replyOf new ++ [tagChar m]) (nev.countP isCallback) = .ok st')
    (hrel : Rel s1 st') : Refines h L t s s' st := by
  obtain ⟨w, hw', rfl⟩ := send_cont_eq hc
  obtain rfl := hw' hwl
  refine ⟨m :: new, nev, st', by simp [ho], he, rfl, ?_, hrel⟩
  rw [show replyOf (m :: new) = replyOf new ++ [tagChar m] by simp [replyOf]]
  exact hspec

/-- … by the failing-message path: one `E`, and the machine starts skipping -/
theorem refines_error {h : Handlers} {L : Nat} {t : UInt8} {s s1 s' : Sess} {st : ExtState} {e : Option Err}
    {new : List BMsg} {nev : List Event} (hc : extendedError s1 e = .cont s')
    (ho : s1.out = new ++ s.out) (he : s1.ev = nev ++ s.ev) (hwl : s1.wleft = none) (hr1 : Rel s1 st)
    (hspec : extStepG (oneOf h) L st (.msg t s.inp.msg) (replyOf new ++ ['E']) (nev.countP isCallback)
      = .ok { st with skipping := true }) : Refines h L t s s' st :=
  refines_send (s1 := { s1 with discard := true }) (st' := { st with skipping := true }) hc ho he hwl
    (by rw [tag_error]; exact hspec) ⟨rfl, hr1.closed, hr1.stmts, hr1.portals⟩

theorem oneOf_false {h : Handlers} {q : Bytes} (hne : ∀ st, h.parse q ≠ .ok [st]) : oneOf h q = false := by
  unfold oneOf
  split
  · rename_i st heq; exact absurd heq (hne st)
  · rfl

theorem describeCols_tag (s : Sess) (f : List Nat) (cols : List ColDesc) :
    ∃ m, describeCols s f cols = s.send m ∧ (tagChar m = 'n' ∨ tagChar m = 'T') := by
  unfold describeCols
  split
  · exact ⟨_, rfl, Or.inl tag_noData⟩
  · exact ⟨_, rfl, Or.inr (tag_rowDesc _)⟩

/-! ### one message -/

section
variable {h : Handlers} {L : Nat} {t : UInt8} {s s' : Sess} {st : ExtState} (hw : s.wleft = none) (hr : Rel s st)
include hw hr

theorem ref_skip (hd : s.discard = true) (h1 : t ≠ ch 'S') (h2 : t ≠ ch 'X') : Refines h L t s s st := by
  refine ⟨[], [], st, rfl, rfl, hw, ?_, hr⟩
  have hs : st.skipping = true := by rw [hr.skipping, hd]
  simp [extStepG, hr.closed, h1, h2, hs, replyOf]

theorem ref_sync
    (hc : afterWrite (({ s with discard := false } : Sess).send (.ready (ch 'I'))) = .cont s') :
    Refines h L (ch 'S') s s' st :=
  refines_send (new := []) (nev := []) (st' := { st with skipping := false }) hc rfl rfl hw
    (by simp [extStepG, hr.closed, replyOf, tag_ready, ch]) ⟨rfl, hr.closed, hr.stmts, hr.portals⟩

theorem ref_noop (hd : s.discard = false) (ht : t = ch 'H' ∨ t = ch 'd' ∨ t = ch 'c' ∨ t = ch 'f') : Refines h L t s s st := by
  refine ⟨[], [], st, rfl, rfl, hw, ?_, hr⟩
  have hs : st.skipping = false := by rw [hr.skipping, hd]
  rcases ht with rfl | rfl | rfl | rfl <;> simp [extStepG, hr.closed, hs, replyOf, ch]

theorem ref_unknown (hd : s.discard = false)
    (hn : t ≠ ch 'X' ∧ t ≠ ch 'S' ∧ t ≠ ch 'H' ∧ t ≠ ch 'd' ∧ t ≠ ch 'c' ∧ t ≠ ch 'f' ∧ t ≠ ch 'Q' ∧ t ≠ ch 'P' ∧
      t ≠ ch 'B' ∧ t ≠ ch 'D' ∧ t ≠ ch 'C' ∧ t ≠ ch 'E')
    (hc : errorCode s (some (errUnimplemented t)) = .cont s') : Refines h L t s s' st := by
  obtain ⟨w, hw', rfl⟩ := errorCode_cont_eq hc
  obtain rfl := hw' hw
  have hs : st.skipping = false := by rw [hr.skipping, hd]
  refine ⟨[.ready (ch 'I'), .error (errorBody (flatten (some (errUnimplemented t))))], [], st, rfl, rfl, rfl, ?_,
    ⟨hr.skipping, hr.closed, hr.stmts, hr.portals⟩⟩
  obtain ⟨a1, a2, a3, a4, a5, a6, a7, a8, a9, a10, a11, a12⟩ := hn
  simp [extStepG, hr.closed, hs, replyOf, tag_ready, tag_error, a1, a2, a3, a4, a5, a6, a7, a8, a9, a10, a11, a12]

theorem ref_parse (hd : s.discard = false) (hc : handleParse h s = .cont s') : Refines h L (ch 'P') s s' st := by
  have hs : st.skipping = false := by rw [hr.skipping, hd]
  have hspec : ∀ {name r1 q r2 : Bytes}, cstr s.inp.msg = some (name, r1) → cstr r1 = some (q, r2) → ∀ reply evs,
      extStepG (oneOf h) L st (.msg (ch 'P') s.inp.msg) reply evs =
      (if oneOf h q then (if reply = ['1'] then .ok { st with stmts := name :: rm name st.stmts } else .error "parse-reply")
       else (if reply = ['E'] then .ok { st with skipping := true } else .error "parse-error-reply")) := by
    intro name r1 q r2 c1 c2 reply evs
    simp [extStepG, hr.closed, hs, ch, c1, c2]
  -- a parser result other than one statement: the failing-message path
  have failing : ∀ {name r1 q r2 r3 : Bytes} {e : Option Err}, getString s.inp.msg = some (name, r1) →
      getString r1 = some (q, r2) → (∀ st, h.parse q ≠ .ok [st]) →
      extendedError ((s.setMsg r3).log (.parse q)) e = .cont s' → Refines h L (ch 'P') s s' st := by
    intro name r1 q r2 r3 e hg hg2 hne hc
    exact refines_error (new := []) (nev := [.parse q]) hc rfl rfl hw hr
      (by rw [hspec hg hg2, oneOf_false hne]; simp [replyOf])
  revert hc
  exact handleParse_cases (P := fun x => x = .cont s' → _) h s
    (stop := fun _ => nofun)
    (parseError := fun hg hg2 _ hp => failing hg hg2 (by rw [hp]; nofun))
    (noStatement := fun hg hg2 _ hp => failing hg hg2 (by rw [hp]; nofun))
    (stored := fun {name _ q _ _ _ _} hg hg2 _ hp hc =>
      refines_send (new := []) (nev := [.parse q]) (st' := { st with stmts := name :: rm name st.stmts }) hc rfl rfl hw
        (by rw [hspec hg hg2]; simp [oneOf, hp, replyOf, tag_parseComplete])
        ⟨hr.skipping, hr.closed, contains_store _ _ name _ hr.stmts, hr.portals⟩)
    (several := fun hg hg2 _ hp _ h1 => failing hg hg2 (by rw [hp]; exact fun st heq => h1 st (Except.ok.inj heq)))

theorem ref_bind (hd : s.discard = false) (hc : handleBind s = .cont s') : Refines h L (ch 'B') s s' st := by
  have hs : st.skipping = false := by rw [hr.skipping, hd]
  have hspec : ∀ {pname r1 sname r2 : Bytes}, cstr s.inp.msg = some (pname, r1) → cstr r1 = some (sname, r2) → ∀ reply evs,
      extStepG (oneOf h) L st (.msg (ch 'B') s.inp.msg) reply evs =
      (if sname ∈ st.stmts then (if reply = ['2'] then .ok { st with portals := pname :: rm pname st.portals } else .error "bind-reply")
       else (if reply = ['E'] then .ok { st with skipping := true } else .error "bind-unknown-statement-reply")) := by
    intro pname r1 sname r2 c1 c2 reply evs
    simp [extStepG, hr.closed, hs, ch, c1, c2]
  revert hc
  exact handleBind_cases (P := fun x => x = .cont s' → _) s
    (stop := fun _ => nofun)
    (unknownStatement := fun hg hg2 _ hl hc =>
      refines_error (new := []) (nev := []) hc rfl rfl hw hr
        (by rw [hspec hg hg2, if_neg (not_mem_of_lookup hr.stmts hl)]; simp [replyOf]))
    (bound := fun {pname _ _ _ _ _ _ _} hg hg2 _ hl hc =>
      refines_send (new := []) (nev := []) (st' := { st with portals := pname :: rm pname st.portals }) hc rfl rfl hw
        (by rw [hspec hg hg2, if_pos (mem_of_lookup hr.stmts hl)]; simp [replyOf, tag_bindComplete])
        ⟨hr.skipping, hr.closed, hr.stmts, contains_store _ _ pname _ hr.portals⟩)

theorem ref_describe (hd : s.discard = false) (hc : handleDescribe s = .cont s') : Refines h L (ch 'D') s s' st := by
  have hs : st.skipping = false := by rw [hr.skipping, hd]
  revert hc
  exact handleDescribe_cases (P := fun x => x = .cont s' → _) s
    (stop := fun _ => nofun)
    (unknownStatement := fun hbody hg2 hl hc =>
      -- `getString` is `cstr`, and `ch 'S'` is 83, by unfolding: restated in the form in which `extStepG` has them
      have c2 : cstr _ = some _ := hg2
      refines_error (new := []) (nev := []) hc rfl rfl hw hr
        (by simp [extStepG, hr.closed, hs, ch, hbody, c2, not_mem_of_lookup hr.stmts hl, replyOf]))
    (statement := fun {_ _ _ stm _} hbody hg2 hl h1 hc => by
      have c2 : cstr _ = some _ := hg2
      obtain ⟨w1, hw1, rfl⟩ := send_true h1
      obtain ⟨m, hm, ht⟩ := describeCols_tag _ [] stm.cols
      rw [hm] at hc
      exact refines_send (new := [.paramDesc stm.params]) (nev := []) hc rfl rfl (hw1 hw)
        (by rcases ht with ht | ht <;>
              simp [extStepG, hr.closed, hs, ch, hbody, c2, mem_of_lookup hr.stmts hl, replyOf, tag_paramDesc, ht]) hr)
    (unknownPortal := fun hbody hg2 hl hc =>
      have c2 : cstr _ = some _ := hg2
      refines_error (new := []) (nev := []) hc rfl rfl hw hr
        (by simp [extStepG, hr.closed, hs, ch, hbody, c2, not_mem_of_lookup hr.portals hl, replyOf]))
    (portal := fun {_ _ r2 p} hbody hg2 hl hc => by
      have c2 : cstr _ = some _ := hg2
      obtain ⟨m, hm, ht⟩ := describeCols_tag (s.setMsg r2) p.formats p.stmt.cols
      rw [hm] at hc
      exact refines_send (new := []) (nev := []) hc rfl rfl hw
        (by rcases ht with ht | ht <;>
              simp [extStepG, hr.closed, hs, ch, hbody, c2, mem_of_lookup hr.portals hl, replyOf, ht]) hr)
    (unknownKind := fun {kind _ _ _} hbody hg2 hS hP hc =>
      have c2 : cstr _ = some _ := hg2
      have a1 : ¬ kind = 83 := hS
      have a2 : ¬ kind = 80 := hP
      refines_error (new := []) (nev := []) hc rfl rfl hw hr
        (by simp [extStepG, hr.closed, hs, ch, hbody, c2, a1, a2, replyOf]))

theorem ref_close (hd : s.discard = false) (hc : handleClose s = .cont s') : Refines h L (ch 'C') s s' st := by
  have hs : st.skipping = false := by rw [hr.skipping, hd]
  revert hc
  exact handleClose_cases (P := fun x => x = .cont s' → _) s
    (stop := fun _ => nofun)
    (statement := fun {_ name _} hbody hg2 hc =>
      have c2 : cstr _ = some _ := hg2
      refines_send (new := []) (nev := []) (st' := { st with stmts := rm name st.stmts }) hc rfl rfl hw
        (by simp [extStepG, hr.closed, hs, ch, hbody, c2, replyOf, tag_closeComplete])
        ⟨hr.skipping, hr.closed, contains_remove _ _ name hr.stmts, hr.portals⟩)
    (portal := fun {_ name _} hbody hg2 hc =>
      have c2 : cstr _ = some _ := hg2
      refines_send (new := []) (nev := []) (st' := { st with portals := rm name st.portals }) hc rfl rfl hw
        (by simp [extStepG, hr.closed, hs, ch, hbody, c2, replyOf, tag_closeComplete])
        ⟨hr.skipping, hr.closed, hr.stmts, contains_remove _ _ name hr.portals⟩)
    (unknownKind := fun {kind _ _ _} hbody hg2 hS hP hc =>
      have c2 : cstr _ = some _ := hg2
      have a1 : ¬ kind = 83 := hS
      have a2 : ¬ kind = 80 := hP
      refines_error (new := []) (nev := []) hc rfl rfl hw hr
        (by simp [extStepG, hr.closed, hs, ch, hbody, c2, a1, a2, replyOf]))

theorem ref_execute (hd : s.discard = false) (hc : handleExecute s = .cont s') : Refines h L (ch 'E') s s' st := by
  have hs : st.skipping = false := by rw [hr.skipping, hd]
  have hspec : ∀ {name r1 : Bytes}, cstr s.inp.msg = some (name, r1) → ∀ reply evs,
      extStepG (oneOf h) L st (.msg (ch 'E') s.inp.msg) reply evs =
      (if name ∈ st.portals then
        (if executeShape reply then .ok { st with skipping := reply.getLast? = some 'E' } else .error "execute-shape")
       else (if reply = ['E'] ∧ evs = 0 then .ok { st with skipping := true } else .error "execute-unknown-portal-reply")) := by
    intro name r1 c1 reply evs
    simp [extStepG, hr.closed, hs, ch, c1]
  -- a run of the portal's statement function: what it added
  have ran : ∀ {r2 : Bytes} {p : Portal} {s2 : Sess} {o : Outcome},
      runProg (p.stmt.body p.params) { cols := p.stmt.cols, formats := p.formats }
        ((s.setMsg r2).log (.exec p.stmt.q p.stmt.idx p.params)) = (o, s2) →
      ∃ new nev, Adds s s2 new nev ∧ ∀ c ∈ replyOf new, okExec c := by
    intro r2 p s2 o hrun
    obtain ⟨new, nev, a, b, _⟩ := (runProg_reach (p.stmt.body p.params) { cols := p.stmt.cols, formats := p.formats }
      ((s.setMsg r2).log (.exec p.stmt.q p.stmt.idx p.params))).adds
    rw [hrun] at a
    exact ⟨_, _, (Adds.setMsg s r2).trans ((Adds.log _ _).trans a), by simpa using replyOf_forall new fun m hm => tag_dcg m (b m hm)⟩
  revert hc
  exact handleExecute_cases (P := fun x => x = .cont s' → _) s
    (stop := fun _ => nofun)
    (unknownPortal := fun hg _ hl hc =>
      refines_error (new := []) (nev := []) hc rfl rfl hw hr
        (by rw [hspec hg, if_neg (not_mem_of_lookup hr.portals hl)]; simp [replyOf]))
    (blocked := fun _ _ _ _ => nofun)
    (panicked := fun hg _ hl hrun hc => by                                    -- recovered
      obtain ⟨new, nev, a, hx⟩ := ran hrun
      obtain ⟨x, y⟩ := executeShape_err (replyOf new) hx
      exact refines_error hc a.out a.ev (a.wl hw) (hr.of_adds a)
        (by rw [hspec hg, if_pos (mem_of_lookup hr.portals hl), x]; simp [y]))
    (failed := fun hg _ hl hrun hc => by
      obtain ⟨new, nev, a, hx⟩ := ran hrun
      obtain ⟨x, y⟩ := executeShape_err (replyOf new) hx
      exact refines_error hc a.out a.ev (a.wl hw) (hr.of_adds a)
        (by rw [hspec hg, if_pos (mem_of_lookup hr.portals hl), x]; simp [y]))
    (done := fun hg _ hl hrun hc => by
      cases hc
      obtain ⟨new, nev, a, hx⟩ := ran hrun
      obtain ⟨x, y⟩ := executeShape_plain (replyOf new) hx
      exact ⟨new, nev, { st with skipping := false }, a.out, a.ev, a.wl hw,
        by rw [hspec hg, if_pos (mem_of_lookup hr.portals hl), x]; simp [y],
        ⟨by rw [a.discard, hd], hr.closed, (hr.of_adds a).stmts, (hr.of_adds a).portals⟩⟩)

theorem ref_query (hd : s.discard = false) (hc : handleSimpleQuery h s = .cont s') : Refines h L (ch 'Q') s s' st := by
  have hs : st.skipping = false := by rw [hr.skipping, hd]
  obtain ⟨body, nev, eb, b, a, hb⟩ := handleSimpleQuery_cycle h s s' hc
  refine ⟨_, nev, st, a.out, a.ev, a.wl hw, ?_, hr.of_adds a⟩
  · have hspec : ∀ reply evs, extStepG (oneOf h) L st (.msg (ch 'Q') s.inp.msg) reply evs =
        (if simpleShape reply then .ok st else .error "simple-cycle-shape") := by
      intro reply evs
      simp [extStepG, hr.closed, hs, ch]
    rw [hspec]
    have hrep : replyOf (.ready (ch 'I') :: ((if eb then [BMsg.error b] else []) ++ body))
        = replyOf body ++ (if eb then ['E'] else []) ++ ['Z'] := by
      cases eb <;> simp [replyOf, tag_ready, tag_error]
    have hshape : simpleShape (replyOf body ++ (if eb then ['E'] else []) ++ ['Z']) = true := by
      rcases hb with hb | ⟨rfl, rfl⟩
      · exact simpleShape_ok (replyOf body) (replyOf_forall body fun m hm => tag_tdcg m (hb m hm)) eb
      · simp [replyOf, tag_emptyQuery, simpleShape]
    rw [hrep, hshape]
    rfl

end

/-- **C06 (refinement).** Every message the command loop handles and survives is a step of the
    reference machine `Spec.extStepG`: the reply group the model writes for it (and the callbacks it
    runs) is exactly what `extStepG` admits in the current abstract state — designated reply,
    `Z` only for Sync (and at the end of a simple-query cycle), one `E` and silence until Sync
    after a failure, nothing for Flush and stray COPY messages — and the abstraction relation
    (names defined, skipping) is re-established. For every handler set, every session state
    reachable or not, every message. (`wleft = none`: the transport accepts writes.) -/
theorem C06_refines (h : Handlers) (L : Nat) (t : UInt8) (s s' : Sess) (st : ExtState)
    (hw : s.wleft = none) (hr : Rel s st) (hc : handleCommand h t s = .cont s') : Refines h L t s s' st := by
  revert hc
  exact handleCommand_cases (P := fun t x => x = .cont s' → Refines h L t s s' st) h t s
    (skip := fun hd h1 h2 hc => by cases hc; exact ref_skip hw hr hd h1 h2)
    (query := ref_query hw hr)
    (execute := ref_execute hw hr)
    (parse := ref_parse hw hr)
    (describe := ref_describe hw hr)
    (sync := ref_sync hw hr)
    (bind := ref_bind hw hr)
    (noop := fun hd ht hc => by cases hc; exact ref_noop hw hr hd ht)
    (close := ref_close hw hr)
    (terminate := fun _ => nofun)
    (terminateHook := fun _ _ => nofun)
    (unknown := ref_unknown hw hr)

/-- Terminate: no reply; the reference machine moves to `closed` -/
theorem C06_terminate_refines (h : Handlers) (L : Nat) (s : Sess) (st : ExtState) (hr : Rel s st) :
    (∃ s', handleCommand h (ch 'X') s = .stop s' .closed ∧ s'.out = s.out) ∧
    extStepG (oneOf h) L st (.msg (ch 'X') s.inp.msg) [] 0 = .ok { st with closed := true } := by
  constructor
  · rw [handleCommand_terminate]
    split
    · exact ⟨_, rfl, rfl⟩
    · exact ⟨_, rfl, rfl⟩
  · simp [extStepG, hr.closed, ch]

/-- the session that has just reached ReadyForQuery is related to the initial abstract state -/
theorem Rel_init (s : Sess) (h1 : s.stmts = []) (h2 : s.portals = []) (h3 : s.discard = false) : Rel s {} := by
  refine ⟨by simp [h3], rfl, ?_, ?_⟩
  · intro n; simp [h1, lookup]
  · intro n; simp [h2, lookup]

/-- a history of complete, in-limit messages handled one after the other (as the command loop does
    with each item it reads) -/
def runMsgs (h : Handlers) : List (UInt8 × Bytes) → Sess → Option Sess
  | [], s => some s
  | (t, b) :: r, s =>
    match handleCommand h t (s.setMsg b) with
    | .cont s' => runMsgs h r s'
    | .stop _ _ => none

/-- the reference machine run over the same history, given the reply group and the callback count
    of every message -/
def specRun (one : Bytes → Bool) (L : Nat) : ExtState → List ((UInt8 × Bytes) × List Char × Nat) → Except String ExtState
  | st, [] => .ok st
  | st, ((t, b), reply, evs) :: r =>
    match extStepG one L st (.msg t b) reply evs with
    | .ok st' => specRun one L st' r
    | .error e => .error e

/-- **C06 (whole histories).** For every history of messages the session survives there is a
    division of everything it wrote into one reply group per message, in request order, such that
    the reference machine accepts the whole history — by induction on the history from
    `C06_refines`. -/
theorem C06_history (h : Handlers) (L : Nat) : ∀ (msgs : List (UInt8 × Bytes)) (s s' : Sess) (st : ExtState),
    s.wleft = none → Rel s st → runMsgs h msgs s = some s' →
    ∃ (groups : List (List BMsg)) (evs : List Nat) (st' : ExtState),
      groups.length = msgs.length ∧ evs.length = msgs.length ∧
      s'.out = (groups.reverse.flatten) ++ s.out ∧
      specRun (oneOf h) L st (msgs.zip ((groups.map replyOf).zip evs)) = .ok st' ∧ Rel s' st' := by
  intro msgs
  induction msgs with
  | nil =>
    intro s s' st hw hr hrun
    simp [runMsgs] at hrun
    subst hrun
    exact ⟨[], [], st, rfl, rfl, by simp, rfl, hr⟩
  | cons m rest ih =>
    intro s s' st hw hr hrun
    obtain ⟨t, b⟩ := m
    simp only [runMsgs] at hrun
    cases hstep : handleCommand h t (s.setMsg b) with
    | stop s1 e => simp [hstep] at hrun
    | cont s1 =>
      simp only [hstep] at hrun
      have hr0 : Rel (s.setMsg b) st := hr
      obtain ⟨new, nev, st1, ho, hev, hw1, hspec, hr1⟩ := C06_refines h L t (s.setMsg b) s1 st hw hr0 hstep
      obtain ⟨groups, evs, st', hl1, hl2, hout, hrun', hr'⟩ := ih s1 s' st1 hw1 hr1 hrun
      refine ⟨new :: groups, nev.countP isCallback :: evs, st', by simp [hl1], by simp [hl2], ?_, ?_, hr'⟩
      · rw [hout, ho]; simp [Sess.setMsg]
      · simp only [List.map_cons, List.zip_cons_cons, specRun]
        have : (s.setMsg b).inp.msg = b := rfl
        rw [this] at hspec
        rw [hspec]
        exact hrun'

/-- non-vacuity: a pipelined history with a failing Parse, a skipped Bind and a Sync is survived by
    the session, from the state the session has right after its first ReadyForQuery -/
example : (runMsgs Props.C06.exHandlers [(80, [0, 113, 0, 0, 0]), (66, [0, 0, 0, 0, 0, 0, 0, 0]), (83, [])]
    { inp := { L := 100, items := [], tail := .wait } }).isSome = true := by decide

example : Rel ({ inp := { L := 100, items := [], tail := .wait } } : Sess) {} := Rel_init _ rfl rfl rfl
end Pw
