import Pw.Generated.TransError
import Pw.Props.TieWriter
import Pw.Model.Errors
import Pw.Model.Backend
/-
  The ErrorResponse builder of error.go as translated (`TransError.writeErrorResponse`,
  `TransError.ErrorCode`, and `TransError.readyForQuery` of handshake.go) against the model's
  `errorBody` (Model/Errors.lean) and `BMsg.error … |>.encode` (Model/Backend.lean).

  The builder works on a writer whose latch is clear (`wr`): there every `Add*` appends (`wr_AddByte`, …), each
  `tag value NUL` field and each guard of the builder is one rewrite (`step_field`, `step_optField`,
  `step_source`), and `End` is one `Write` of the finished message (`wsend`).
-/
namespace Pw.Tie
open Pw.Go

theorem error_untranslatable_nil : TransError.untranslatable = [] := rfl

/-- the two structs behind `ErrDesc` / `ErrSource` of RtError.lean, field for field -/
theorem error_struct_layout :
    TransError.structError = [("Code", "github.com/jeroenrinzema/psql-wire/codes.Code"), ("Message", "string"),
      ("Detail", "string"), ("Hint", "string"), ("Severity", "Severity"), ("ConstraintName", "string"),
      ("Source", "*Source")] ∧
    TransError.structSource = [("File", "string"), ("Line", "int32"), ("Function", "string")] := ⟨rfl, rfl⟩

def absSource (s : ErrSource) : Bytes × Int × Bytes := (s.File, s.Line, s.Function)

/-- `errors.Error` ↦ the model's `Flat` -/
def absDesc (d : ErrDesc) : Flat :=
  { code := d.Code, message := d.Message, detail := d.Detail, hint := d.Hint, severity := d.Severity,
    constr := d.ConstraintName, source := d.Source.map absSource }

/-- the line number is a Go `int32` (anything in the range of `int64` will do: `int64(desc.Source.Line)`) -/
def LineOK (d : ErrDesc) : Prop :=
  ∀ s, d.Source = some s → -9223372036854775808 ≤ s.Line ∧ s.Line < 9223372036854775808

instance (d : ErrDesc) : Decidable (LineOK d) := by
  unfold LineOK
  cases d.Source with
  | none => exact isTrue (by intro s h; cases h)
  | some s =>
    exact decidable_of_iff (-9223372036854775808 ≤ s.Line ∧ s.Line < 9223372036854775808)
      ⟨fun h s' hs => by cases hs; exact h, fun h => h s rfl⟩

/-! ### stepping: a writer whose latch is clear -/

def wr (f pb : Bytes) : WriterS := { frame := f, putbuf := pb, err := none }

theorem setWriter_setWriter (w : World) (a b : WriterS) : setWriter (setWriter w a) b = setWriter w b := rfl
theorem wr_putbuf (f pb : Bytes) : (wr f pb).putbuf = pb := rfl
theorem setWriter_writer (w : World) (a : WriterS) : (setWriter w a).writer = a := rfl

/-- `putbuf` after `Start(t)`: byte 0 is the type byte -/
def pbStart (t : UInt8) (pb : Bytes) : Bytes := t :: pb.tail

theorem pbStart_ok (t : UInt8) (pb : Bytes) (hp : PutbufOK pb) : PutbufOK (pbStart t pb) := by
  obtain ⟨x, rest, hx⟩ := hp
  exact ⟨t, rest, by simp [pbStart, hx]⟩

theorem wr_Start (t : UInt8) (w : World) (hp : PutbufOK w.writer.putbuf) :
    Trans.Writer_Start t w = .ok () (setWriter w (wr [t, 0, 0, 0, 0] (pbStart t w.writer.putbuf))) :=
  tie_Writer_Start_eq t w hp

/-- the state `wr_Start` names is the one `tie_Writer_Start` speaks about -/
theorem step_Start_abs (t : UInt8) (w : World) (hp : PutbufOK w.writer.putbuf) :
    absW (wr [t, 0, 0, 0, 0] (pbStart t w.writer.putbuf)) = Writer.start t (absW w.writer) := rfl

theorem wr_AddByte (b : UInt8) (w : World) (f pb : Bytes) :
    Trans.Writer_AddByte b (setWriter w (wr f pb)) = .ok () (setWriter w (wr (f ++ [b]) pb)) :=
  tie_Writer_AddByte_eq b _

theorem wr_AddNullTerminate (w : World) (f pb : Bytes) :
    Trans.Writer_AddNullTerminate (setWriter w (wr f pb)) = .ok () (setWriter w (wr (f ++ [0]) pb)) :=
  tie_Writer_AddNullTerminate_eq _

theorem wr_AddString (b : Bytes) (w : World) (f pb : Bytes) :
    Trans.Writer_AddString b (setWriter w (wr f pb)) = .ok (b.length : Int) (setWriter w (wr (f ++ b) pb)) :=
  tie_Writer_AddString_eq b _

/-! ### the builder -/

/-- the frame the builder has assembled when it calls `End` -/
def errFrame (d : ErrDesc) : Bytes := 69 :: 0 :: 0 :: 0 :: 0 :: errorBody (absDesc d)

/-- one `tag value NUL` field -/
theorem step_field {α} (t : UInt8) (v : Bytes) (w : World) (f pb : Bytes) (k : World → Out α) :
    ((Trans.Writer_AddByte t (setWriter w (wr f pb))).bind fun _ w =>
      (Trans.Writer_AddString v w).bind fun _ w => (Trans.Writer_AddNullTerminate w).bind fun _ w => k w) =
    k (setWriter w (wr (f ++ (t :: v ++ [0])) pb)) := by
  rw [wr_AddByte, Out.ok_bind, wr_AddString, Out.ok_bind, wr_AddNullTerminate, Out.ok_bind,
    List.append_assoc, List.append_assoc]
  rfl

/-- a guarded field.  The translator repeats the rest of the function in both branches of an `if`, so the
    guard only decides what is appended: rewriting with this lemma halves the body (the unifier checks that the
    two continuations coincide), and the sixteen paths are never enumerated. -/
theorem step_optField {α} (t : UInt8) (v : Bytes) (w : World) (f pb : Bytes) (k : World → Out α) :
    (if v ≠ [] then
      (Trans.Writer_AddByte t (setWriter w (wr f pb))).bind fun _ w =>
      (Trans.Writer_AddString v w).bind fun _ w => (Trans.Writer_AddNullTerminate w).bind fun _ w => k w
     else k (setWriter w (wr f pb))) =
    k (setWriter w (wr (f ++ if v = [] then [] else t :: v ++ [0]) pb)) := by
  rw [step_field]
  by_cases h : v = [] <;> simp [h]

/-- the three fields of `desc.Source` behind its nil test, where the dereferences cannot fail -/
theorem step_source {α} (src : Option ErrSource) (w : World) (f pb : Bytes) (k : World → Out α)
    (hl : ∀ s, src = some s → i64 s.Line = s.Line) :
    (if src ≠ none then
      (Trans.Writer_AddByte 70 (setWriter w (wr f pb))).bind fun _ w =>
      chk (derefPtr src) fun s =>
      (Trans.Writer_AddString s.File w).bind fun _ w => (Trans.Writer_AddNullTerminate w).bind fun _ w =>
      (Trans.Writer_AddByte 76 w).bind fun _ w =>
      chk (derefPtr src) fun s =>
      (Trans.Writer_AddString (formatInt10 (i64 s.Line)) w).bind fun _ w =>
      (Trans.Writer_AddNullTerminate w).bind fun _ w =>
      (Trans.Writer_AddByte 82 w).bind fun _ w =>
      chk (derefPtr src) fun s =>
      (Trans.Writer_AddString s.Function w).bind fun _ w => (Trans.Writer_AddNullTerminate w).bind fun _ w => k w
     else k (setWriter w (wr f pb))) =
    k (setWriter w (wr (f ++ match src with
      | none => []
      | some s => (70 :: s.File ++ [0]) ++ (76 :: decInt s.Line ++ [0]) ++ (82 :: s.Function ++ [0])) pb)) := by
  cases src with
  | none => simp
  | some s =>
    simp only [derefPtr, chk, step_field, formatInt10, hl s rfl, ne_eq, reduceCtorEq, not_false_eq_true, if_true,
      List.append_assoc]

theorem errFrame_parts (a b c h d s n z : Bytes) :
    [69, 0, 0, 0, 0] ++ a ++ b ++ c ++ h ++ d ++ s ++ n ++ z =
      69 :: 0 :: 0 :: 0 :: 0 :: (a ++ b ++ c ++ h ++ d ++ s ++ n ++ z) := rfl

/-- `writeErrorResponse` = `End` on a writer whose latch is clear and whose frame is the type byte
    'E', the four placeholder bytes and exactly the model's `errorBody` of the flattened description
    (fields S C M, then H, D, F L R, n when present, in this order, and the final NUL).  No hypothesis on
    the writer's frame or latch at entry: `Start` resets both. -/
theorem tie_writeErrorResponse_frame (e : ErrArg) (w : World) (hp : PutbufOK w.writer.putbuf) (hl : LineOK e.flat) :
    TransError.writeErrorResponse e w =
      Trans.Writer_End (setWriter w (wr (errFrame e.flat) (pbStart 69 w.writer.putbuf))) := by
  show _ = Trans.Writer_End (setWriter w (wr (errFrame (flattenExt e)) _))
  have hl : LineOK (flattenExt e) := hl
  unfold TransError.writeErrorResponse
  -- `flattenExt e` also sits in the `Decidable` instances of the guards, where `simp only [flattenExt]` does not reach
  generalize flattenExt e = d at hl ⊢
  rw [wr_Start 69 w hp, Out.ok_bind, step_field 83, step_field 67, step_field 77, step_optField 72, step_optField 68,
    step_source d.Source _ _ _ _ fun s hs => i64_id _ (hl s hs).1 (hl s hs).2, step_optField 110,
    wr_AddNullTerminate, Out.ok_bind, Out.bind_ok]
  refine congrArg (fun f => Trans.Writer_End (setWriter w (wr f _))) ?_
  -- each part is the model's `errField` of the same tag by unfolding; `Source` decides the shape of its part
  cases d with
  | mk code msg det hint sev cn src =>
    cases src with
    | none => exact errFrame_parts ..
    | some s => exact errFrame_parts ..

/-! ### `End`: the bytes on the connection -/

/-- ONE `Write` of the finished message `m` (started with type byte `t`), the `Write`'s error returned and the
    writer reset: what every builder of the library ends in, and the byte-level form of the model's `Sess.send` -/
def wsend (m : Bytes) (t : UInt8) (w : World) : Out (Option Go.Err) :=
  (connWrite m (setWriter w (wr m (pbStart t w.writer.putbuf)))).bind fun r w' =>
    .ok r.2 (setWriter w' (wr [] (pbStart t w.writer.putbuf)))

theorem wsend_all {m : Bytes} {t : UInt8} {w : World} (hw : w.wleft = none) :
    wsend m t w = .ok none { setWriter w (wr [] (pbStart t w.writer.putbuf)) with sink := m :: w.sink } := by
  simp [wsend, connWrite, setWriter, hw, Out.bind]

theorem wsend_counted {m : Bytes} {t : UInt8} {w : World} (n : Nat) (hw : w.wleft = some (n + 1)) :
    wsend m t w =
      .ok none { setWriter w (wr [] (pbStart t w.writer.putbuf)) with sink := m :: w.sink, wleft := some n } := by
  simp [wsend, connWrite, setWriter, hw, Out.bind]

theorem wsend_fails {m : Bytes} {t : UInt8} {w : World} (hw : w.wleft = some 0) :
    wsend m t w = .ok (some .writeErr) (setWriter w (wr [] (pbStart t w.writer.putbuf))) := by
  simp [wsend, connWrite, setWriter, hw, Out.bind]

theorem wr_End (t : UInt8) (body : Bytes) (w : World) (hlen : body.length + 5 < 4294967296) :
    Trans.Writer_End (setWriter w (wr (t :: 0 :: 0 :: 0 :: 0 :: body) (pbStart t w.writer.putbuf))) =
      wsend (frame t body) t w := by
  obtain ⟨out, _, ho, h⟩ := tie_Writer_End_ok (setWriter w (wr (t :: 0 :: 0 :: 0 :: 0 :: body) (pbStart t w.writer.putbuf)))
    t 0 0 0 0 body rfl rfl (by simpa [setWriter, wr] using hlen)
  have ho' : out = frame t body := by rw [ho]; simp [frame, setWriter, wr]
  rw [h, ho']
  simp only [wsend, setWriter, wr, connWrite]
  cases w.wleft with
  | none => rfl
  | some n => cases n <;> rfl

def errMsg (d : ErrDesc) : Bytes := (BMsg.error (errorBody (absDesc d))).encode

theorem errMsg_eq (d : ErrDesc) : errMsg d = frame 69 (errorBody (absDesc d)) := rfl

/-- the body fits the 32-bit length field (Go: `uint32(len − 1)` would wrap silently otherwise) -/
def FitsFrame (d : ErrDesc) : Prop := (errorBody (absDesc d)).length + 5 < 4294967296

instance (d : ErrDesc) : Decidable (FitsFrame d) := by unfold FitsFrame; infer_instance

theorem tie_writeErrorResponse_wsend (e : ErrArg) (w : World) (hp : PutbufOK w.writer.putbuf) (hl : LineOK e.flat)
    (hf : FitsFrame e.flat) : TransError.writeErrorResponse e w = wsend (errMsg e.flat) 69 w := by
  rw [tie_writeErrorResponse_frame e w hp hl, errFrame, wr_End 69 _ w hf]
  rfl

/-- `writeErrorResponse` on ANY writer state (frame, latch) performs exactly one `Write` on the
    connection, of `(BMsg.error (errorBody desc)).encode`, returns that `Write`'s error, and leaves the
    writer reset. -/
theorem tie_writeErrorResponse (e : ErrArg) (w : World) (hp : PutbufOK w.writer.putbuf) (hl : LineOK e.flat)
    (hf : FitsFrame e.flat) :
    TransError.writeErrorResponse e w =
      (connWrite (errMsg e.flat) (setWriter w (wr (errMsg e.flat) (pbStart 69 w.writer.putbuf)))).bind fun r w' =>
        .ok r.2 (setWriter w' (wr [] (pbStart 69 w.writer.putbuf))) :=
  tie_writeErrorResponse_wsend e w hp hl hf

theorem tie_writeErrorResponse_sent (e : ErrArg) (w : World) (hp : PutbufOK w.writer.putbuf) (hl : LineOK e.flat)
    (hf : FitsFrame e.flat) (hw : w.wleft = none) :
    TransError.writeErrorResponse e w =
      .ok none { setWriter w (wr [] (pbStart 69 w.writer.putbuf)) with sink := errMsg e.flat :: w.sink } := by
  rw [tie_writeErrorResponse_wsend e w hp hl hf, wsend_all hw]

theorem tie_writeErrorResponse_sent_counted (e : ErrArg) (w : World) (hp : PutbufOK w.writer.putbuf)
    (hl : LineOK e.flat) (hf : FitsFrame e.flat) (n : Nat) (hw : w.wleft = some (n + 1)) :
    TransError.writeErrorResponse e w =
      .ok none { setWriter w (wr [] (pbStart 69 w.writer.putbuf)) with sink := errMsg e.flat :: w.sink, wleft := some n } := by
  rw [tie_writeErrorResponse_wsend e w hp hl hf, wsend_counted n hw]

theorem tie_writeErrorResponse_writeFails (e : ErrArg) (w : World) (hp : PutbufOK w.writer.putbuf)
    (hl : LineOK e.flat) (hf : FitsFrame e.flat) (hw : w.wleft = some 0) :
    TransError.writeErrorResponse e w = .ok (some .writeErr) (setWriter w (wr [] (pbStart 69 w.writer.putbuf))) := by
  rw [tie_writeErrorResponse_wsend e w hp hl hf, wsend_fails hw]

/-- no panic (in particular no nil dereference of `desc.Source`, no slice panic in `End`) and no blocking:
    the builder returns, with the writer reset and at most the one message added to the connection -/
theorem tie_writeErrorResponse_noPanic (e : ErrArg) (w : World) (hp : PutbufOK w.writer.putbuf) (hl : LineOK e.flat)
    (hf : FitsFrame e.flat) :
    ∃ r w', TransError.writeErrorResponse e w = .ok r w' ∧ w'.writer = wr [] (pbStart 69 w.writer.putbuf) ∧
      PutbufOK w'.writer.putbuf ∧
      ((r = none ∧ w'.sink = errMsg e.flat :: w.sink) ∨ (r = some .writeErr ∧ w'.sink = w.sink)) := by
  have hpb := pbStart_ok 69 _ hp
  cases hw : w.wleft with
  | none => exact ⟨_, _, tie_writeErrorResponse_sent e w hp hl hf hw, rfl, hpb, Or.inl ⟨rfl, rfl⟩⟩
  | some n =>
    cases n with
    | zero => exact ⟨_, _, tie_writeErrorResponse_writeFails e w hp hl hf hw, rfl, hpb, Or.inr ⟨rfl, rfl⟩⟩
    | succ n => exact ⟨_, _, tie_writeErrorResponse_sent_counted e w hp hl hf n hw, rfl, hpb, Or.inl ⟨rfl, rfl⟩⟩

/-- The frame and the error latch the writer holds at entry have no influence: `Start`
    resets both before the first field is added (and no `Add*` of this builder can set the latch), so the
    builder never takes the latch-set branch of `End` (`tie_Writer_End_err`) -/
theorem tie_writeErrorResponse_latch (e : ErrArg) (w : World) (f : Bytes) (le : Option Go.Err)
    (hp : PutbufOK w.writer.putbuf) (hl : LineOK e.flat) :
    TransError.writeErrorResponse e (setWriter w { w.writer with frame := f, err := le }) =
      TransError.writeErrorResponse e w := by
  rw [tie_writeErrorResponse_frame e w hp hl, tie_writeErrorResponse_frame e _ (by simpa [setWriter] using hp) hl]
  rfl

/-! ### against the model's `flatten` -/

def descOf (f : Flat) : ErrDesc :=
  { Code := f.code, Message := f.message, Detail := f.detail, Hint := f.hint, Severity := f.severity,
    ConstraintName := f.constr, Source := f.source.map fun (a, b, c) => { File := a, Line := b, Function := c } }

theorem absDesc_descOf (f : Flat) : absDesc (descOf f) = f := by
  cases f with
  | mk c m d h s n src => cases src <;> simp [absDesc, descOf, absSource]

theorem descOf_absDesc (d : ErrDesc) : descOf (absDesc d) = d := by
  cases d with
  | mk c m d h s n src => cases src <;> simp [absDesc, descOf, absSource]

/-- for a model error `err` (nil included) whose `Flatten` is what the caller's value flattens to, the
    message sent is the one Model/Session and C17 speak about: `BMsg.error (errorBody (flatten err))` -/
theorem tie_writeErrorResponse_model (err : Option Pw.Err) (w : World) (hp : PutbufOK w.writer.putbuf)
    (hl : LineOK (descOf (flatten err))) (hf : FitsFrame (descOf (flatten err))) (hw : w.wleft = none) :
    TransError.writeErrorResponse ⟨descOf (flatten err)⟩ w =
      .ok none { setWriter w (wr [] (pbStart 69 w.writer.putbuf)) with
                 sink := (BMsg.error (errorBody (flatten err))).encode :: w.sink } := by
  rw [tie_writeErrorResponse_sent ⟨descOf (flatten err)⟩ w hp hl hf hw]
  simp [errMsg, absDesc_descOf]

/-! ### readyForQuery, ErrorCode -/

theorem tie_readyForQuery (st : UInt8) (w : World) (hp : PutbufOK w.writer.putbuf) :
    TransError.readyForQuery st w =
      (connWrite (BMsg.ready st).encode (setWriter w (wr (BMsg.ready st).encode (pbStart 90 w.writer.putbuf)))).bind
        fun r w' => .ok r.2 (setWriter w' (wr [] (pbStart 90 w.writer.putbuf))) := by
  unfold TransError.readyForQuery
  rw [wr_Start 90 w hp, Out.ok_bind, wr_AddByte, Out.ok_bind, Out.bind_ok]
  exact wr_End 90 [st] w (by simp)

/-- `ErrorCode` = the ErrorResponse, then (only when its `Write` succeeded) ReadyForQuery('I') -/
theorem tie_ErrorCode (e : ErrArg) (w : World) :
    TransError.ErrorCode e w =
      (TransError.writeErrorResponse e w).bind fun r w' =>
        if r ≠ none then .ok r w' else TransError.readyForQuery 73 w' := by
  unfold TransError.ErrorCode
  simp only [Out.bind_ok]

theorem tie_ErrorCode_wsend (e : ErrArg) (w : World) (hp : PutbufOK w.writer.putbuf) (hl : LineOK e.flat)
    (hf : FitsFrame e.flat) :
    TransError.ErrorCode e w =
      (wsend (errMsg e.flat) 69 w).bind fun r w' =>
        if r ≠ none then .ok r w' else wsend (BMsg.ready 73).encode 90 w' := by
  rw [tie_ErrorCode, tie_writeErrorResponse_wsend e w hp hl hf]
  have hpb := pbStart_ok 69 _ hp
  -- after the first `wsend` the writer's `putbuf` is `pbStart 69 …` in every case, which is all `readyForQuery` needs
  cases hw : w.wleft with
  | none => rw [wsend_all hw, Out.ok_bind, Out.ok_bind, tie_readyForQuery 73 _ hpb]; rfl
  | some n =>
    cases n with
    | zero => rw [wsend_fails hw]; rfl
    | succ n => rw [wsend_counted n hw, Out.ok_bind, Out.ok_bind, tie_readyForQuery 73 _ hpb]; rfl

/-- every `Write` succeeds: ErrorResponse then ReadyForQuery(idle), two `Write`s, result nil -/
theorem tie_ErrorCode_sent (e : ErrArg) (w : World) (hp : PutbufOK w.writer.putbuf) (hl : LineOK e.flat)
    (hf : FitsFrame e.flat) (hw : w.wleft = none) :
    TransError.ErrorCode e w =
      .ok none { setWriter w (wr [] (pbStart 90 (pbStart 69 w.writer.putbuf))) with
                 sink := (BMsg.ready 73).encode :: errMsg e.flat :: w.sink } := by
  rw [tie_ErrorCode_wsend e w hp hl hf, wsend_all hw, Out.ok_bind, if_neg (by simp)]
  exact wsend_all hw

/-- the first `Write` fails: its error is returned and ReadyForQuery is NOT attempted -/
theorem tie_ErrorCode_writeFails (e : ErrArg) (w : World) (hp : PutbufOK w.writer.putbuf) (hl : LineOK e.flat)
    (hf : FitsFrame e.flat) (hw : w.wleft = some 0) :
    TransError.ErrorCode e w = .ok (some .writeErr) (setWriter w (wr [] (pbStart 69 w.writer.putbuf))) := by
  rw [tie_ErrorCode_wsend e w hp hl hf, wsend_fails hw, Out.ok_bind, if_pos (by simp)]

/-- the second `Write` fails: the ErrorResponse is out, ReadyForQuery is not, the error is returned -/
theorem tie_ErrorCode_readyFails (e : ErrArg) (w : World) (hp : PutbufOK w.writer.putbuf) (hl : LineOK e.flat)
    (hf : FitsFrame e.flat) (hw : w.wleft = some 1) :
    TransError.ErrorCode e w =
      .ok (some .writeErr) { setWriter w (wr [] (pbStart 90 (pbStart 69 w.writer.putbuf))) with
                             sink := errMsg e.flat :: w.sink, wleft := some 0 } := by
  rw [tie_ErrorCode_wsend e w hp hl hf, wsend_counted 0 hw, Out.ok_bind, if_neg (by simp)]
  exact wsend_fails rfl

/-- what a run left on the connection (newest first), the result, and whether the writer is reset -/
def ranTo {α} : Out (Option α) → Option (List Bytes × Bool × Bool)
  | .ok r w => some (w.sink, r.isSome, w.writer.frame.isEmpty && w.writer.err.isNone)
  | _ => none

def exDesc : ErrDesc :=
  { Code := ascii "42601"
    Message := ascii "boom"
    Severity := ascii "ERROR"
    Hint := ascii "try"
    Source := some { File := ascii "f.go", Line := -12, Function := ascii "fn" } }

/-- 'E' len=45  S"ERROR" C"42601" M"boom" H"try" F"f.go" L"-12" R"fn" NUL  (no D, no n) -/
def exBytes : Bytes :=
  [69, 0, 0, 0, 45, 83, 69, 82, 82, 79, 82, 0, 67, 52, 50, 54, 48, 49, 0, 77, 98, 111, 111, 109, 0, 72, 116, 114,
   121, 0, 70, 102, 46, 103, 111, 0, 76, 45, 49, 50, 0, 82, 102, 110, 0, 0]

example : ranTo (TransError.writeErrorResponse ⟨exDesc⟩ {}) = some ([exBytes], false, true) := by decide +kernel

example : errMsg exDesc = exBytes := by decide +kernel

/-- a stale frame and a set latch at entry change nothing -/
example : ranTo (TransError.writeErrorResponse ⟨exDesc⟩
    { writer := { frame := [1, 2, 3], err := some .writeErr } }) = some ([exBytes], false, true) := by decide +kernel

/-- a failing `Write`: nothing sent, error returned, writer reset -/
example : ranTo (TransError.writeErrorResponse ⟨exDesc⟩ { wleft := some 0 }) = some ([], true, true) := by
  decide +kernel

/-- `ErrorCode`: ErrorResponse, then ReadyForQuery('I') -/
example : ranTo (TransError.ErrorCode ⟨exDesc⟩ {}) = some ([[90, 0, 0, 0, 5, 73], exBytes], false, true) := by
  decide +kernel

/-- a decorated model error through the model's `flatten`: hint before detail, constraint last -/
example : ranTo (TransError.writeErrorResponse
      ⟨descOf (flatten (some (.constr (ascii "k") (.detail (ascii "d") (.hint (ascii "h") (.base (ascii "m")))))))⟩ {}) =
    some ([[69, 0, 0, 0, 31] ++ ascii "SERROR" ++ [0] ++ ascii "CXXUUU" ++ [0] ++ ascii "Mm" ++ [0] ++ ascii "Hh" ++ [0]
            ++ ascii "Dd" ++ [0] ++ ascii "nk" ++ [0, 0]], false, true) := by decide +kernel

end Pw.Tie
