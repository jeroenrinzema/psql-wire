import Pw.Props.C05
/-
  C06 — Extended Query: designated replies, one ReadyForQuery per Sync, skip on error.
  Per-message theorems about the command handlers, for every session state and every handler.
-/
namespace Pw.Props.C06
open Pw.Props.C05

/-- **skip**: while a batch is being discarded, every message other than Sync and Terminate is
    dropped: no reply, no callback, no state change whatsoever -/
theorem C06_skip (h : Handlers) (t : UInt8) (s : Sess)
    (hd : s.discard = true) (h1 : t ≠ ch 'S') (h2 : t ≠ ch 'X') :
    handleCommand h t s = .cont s := by
  simp [handleCommand, hd, h1, h2]

/-- **Sync**: exactly one ReadyForQuery, and normal processing resumes -/
theorem C06_sync (h : Handlers) (s s' : Sess) (hc : handleCommand h (ch 'S') s = .cont s') :
    s'.out = .ready (ch 'I') :: s.out ∧ s'.discard = false ∧ s'.ev = s.ev := by
  rw [handleCommand_sync] at hc
  obtain ⟨w, _, rfl⟩ := send_cont_eq hc
  exact ⟨rfl, rfl, rfl⟩

/-- **a failing message** produces exactly one ErrorResponse (no ReadyForQuery) and starts
    discarding -/
theorem C06_error_one (s s' : Sess) (e : Option Err) (hc : extendedError s e = .cont s') :
    s'.out = .error (errorBody (flatten e)) :: s.out ∧ s'.discard = true ∧ s'.ev = s.ev := by
  obtain ⟨w, _, rfl⟩ := extendedError_cont_eq hc
  exact ⟨rfl, rfl, rfl⟩

/-- **unknown statement**: a well-formed Bind naming a statement that does not exist is
    answered by an ErrorResponse through the failing-message path — never silence, never a
    dropped connection -/
theorem C06_bind_unknown (s : Sess) (pname sname r1 r2 r3 : Bytes) (params : List Param) (rf : List Nat)
    (h1 : getString s.inp.msg = some (pname, r1)) (h2 : getString r1 = some (sname, r2))
    (h3 : decodeBindTail r2 = some (params, rf, r3)) (hu : lookup sname s.stmts = none) :
    handleBind s = extendedError (s.setMsg r3) (some (errUnknownStatement sname)) := by
  simp [handleBind, h1, h2, h3, Sess.setMsg, hu]

/-- **unknown portal**: Execute of a portal that does not exist is such an error too, and no
    statement function runs -/
theorem C06_execute_unknown (s : Sess) (name r1 r2 : Bytes) (lim : Nat)
    (h1 : getString s.inp.msg = some (name, r1)) (h2 : getU32 r1 = some (lim, r2))
    (hu : lookup name s.portals = none) :
    handleExecute s = extendedError (s.setMsg r2) (some (errUnknownPortal name)) := by
  simp [handleExecute, h1, h2, Sess.setMsg, hu]

/-- **Parse**: ParseComplete, or the failing-message path; never a ReadyForQuery -/
theorem C06_parse_reply (h : Handlers) (s s' : Sess) (hc : handleParse h s = .cont s') :
    (s'.out = .parseComplete :: s.out ∧ s'.discard = s.discard) ∨
    (∃ e, s'.out = .error (errorBody (flatten e)) :: s.out ∧ s'.discard = true) := by
  have failing : ∀ {s1 : Sess} {e : Option Err}, extendedError s1 e = .cont s' → s1.out = s.out →
      ∃ e, s'.out = .error (errorBody (flatten e)) :: s.out ∧ s'.discard = true := by
    intro s1 e hc ho
    obtain ⟨_, _, rfl⟩ := extendedError_cont_eq hc
    exact ⟨e, by rw [← ho], rfl⟩
  revert hc
  exact handleParse_cases (P := fun st => st = .cont s' → _) h s
    (stop := fun _ => nofun)
    (parseError := fun _ _ _ _ hc => Or.inr (failing hc rfl))
    (noStatement := fun _ _ _ _ hc => Or.inr (failing hc rfl))
    (stored := fun _ _ _ _ hc => by
      obtain ⟨_, _, rfl⟩ := send_cont_eq hc
      exact Or.inl ⟨rfl, rfl⟩)
    (several := fun _ _ _ _ _ _ hc => Or.inr (failing hc rfl))

/-- **Flush** and stray COPY messages: nothing at all -/
theorem C06_flush (h : Handlers) (s : Sess) (hd : s.discard = false) :
    handleCommand h (ch 'H') s = .cont s ∧ handleCommand h (ch 'd') s = .cont s ∧
    handleCommand h (ch 'c') s = .cont s ∧ handleCommand h (ch 'f') s = .cont s := by
  refine ⟨?_, ?_, ?_, ?_⟩ <;> simp [handleCommand, hd, ch]

/-- **Execute**: whatever the statement function does, no ReadyForQuery is emitted -/
theorem C06_execute_no_ready (s s' : Sess) (hc : handleExecute s = .cont s') :
    s'.out.countP isReady = s.out.countP isReady := by
  have failing : ∀ {s1 : Sess} {e : Option Err}, extendedError s1 e = .cont s' →
      s1.out.countP isReady = s.out.countP isReady → s'.out.countP isReady = s.out.countP isReady := by
    intro s1 e hc ho
    obtain ⟨_, _, rfl⟩ := extendedError_cont_eq hc
    simpa [isReady] using ho
  have ran : ∀ {p : Prog} {d : DW} {s1 s2 : Sess} {o : Outcome}, runProg p d s1 = (o, s2) → s1.out = s.out →
      s2.out.countP isReady = s.out.countP isReady := by
    intro p d s1 s2 o hr ho
    have := C05_handler_no_ready p d s1
    rwa [hr, ho] at this
  revert hc
  exact handleExecute_cases (P := fun st => st = .cont s' → _) s
    (stop := fun _ => nofun)
    (unknownPortal := fun _ _ _ hc => failing hc rfl)
    (blocked := fun _ _ _ _ => nofun)
    (panicked := fun _ _ _ hr hc => failing hc (ran hr rfl))
    (failed := fun _ _ _ hr hc => failing hc (ran hr rfl))
    (done := fun _ _ _ hr hc => by cases hc; exact ran hr rfl)

/-- non-vacuity: a pipelined batch with a failing Parse — `E`, then silence until `Z` -/
def exHandlers : Handlers :=
  { parse := (fun _ => Except.error (Err.base [120])), validate := (fun _ _ _ => Verdict.accept), mws := [], terminate := none }

def exItems : List Item :=
  [Item.msg 80 [0, 113, 0, 0, 0], Item.msg 66 [0, 0, 0, 0, 0, 0, 0, 0], Item.msg 69 [0, 0, 0, 0, 0], Item.msg 83 []]

def exSess : Sess := { inp := { L := 100, tail := Tail.wait, items := exItems } }

example : ((loop exHandlers 5 exSess).1.out.reverse.map BMsg.tag) = [69, 90] ∧
    (loop exHandlers 5 exSess).1.ev.length = 1 := by decide

end Pw.Props.C06
