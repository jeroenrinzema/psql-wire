import Pw.Model.Stream
import Pw.Spec.Cursor
import Pw.Props.C10
/-
  C03 — request parsing depends only on the byte stream, message by message.
-/
namespace Pw.Props.C03
open Pw.Stream Pw.Spec

/-! ### 1. `io.ReadFull` over any segmentation returns the flat stream's prefix -/

theorem rawRead_spec (segs : Segs) (n : Nat) (got : Bytes) (rest : Segs) (hn : 0 < n)
    (h : rawRead n segs = some (got, rest)) :
    got ≠ [] ∧ got.length ≤ n ∧ got ++ rest.flatten = segs.flatten := by
  fun_induction rawRead n segs with
  | case1 => cases h
  | case2 rest' ih => exact ih h
  | case3 seg rest' hs =>
    cases h
    have cut : seg.take n ++ (seg.drop n ++ rest'.flatten) = seg ++ rest'.flatten := by
      rw [← List.append_assoc, List.take_append_drop]
    refine ⟨fun e => ?_, List.length_take_le _ _, ?_⟩
    · rcases List.take_eq_nil_iff.mp e with h0 | h0
      · omega
      · exact hs h0
    · split
      · rename_i hd
        rw [hd] at cut
        exact cut
      · exact cut

theorem readFull_flat : ∀ (fuel n : Nat) (segs : Segs) (got : Bytes) (rest : Segs),
    readFull fuel n segs = some (got, rest) →
    got = segs.flatten.take n ∧ rest.flatten = segs.flatten.drop n := by
  intro fuel n segs
  fun_induction readFull fuel n segs with
  | case1 => intro _ _ h; cases h; exact ⟨rfl, rfl⟩
  | case2 => intro _ _ h; cases h
  | case3 => intro _ _ h; cases h
  | case4 => intro _ _ h; cases h
  | case5 fuel n s g s' hr more s'' hf ih =>
    intro _ _ h
    cases h
    -- the first raw read returns at most what was asked for, so `take`/`drop` pass over it whole
    obtain ⟨_, hlen, hflat⟩ := rawRead_spec s (n + 1) g s' (by omega) hr
    obtain ⟨hm, hrest⟩ := ih _ _ hf
    rw [← hflat, List.take_append, List.drop_append, List.take_of_length_le hlen, List.drop_of_length_le hlen,
      ← hm, hrest]
    exact ⟨rfl, rfl⟩

/-- **C03 (segmentation)**, transport level: two segmentations of the same bytes give the
    same `ReadFull` result (bytes and remaining flat stream) -/
theorem C03_readFull_segmentation (f1 f2 n : Nat) (s1 s2 : Segs) (h : s1.flatten = s2.flatten)
    (g1 g2 : Bytes) (r1 r2 : Segs)
    (h1 : readFull f1 n s1 = some (g1, r1)) (h2 : readFull f2 n s2 = some (g2, r2)) :
    g1 = g2 ∧ r1.flatten = r2.flatten := by
  obtain ⟨a1, b1⟩ := readFull_flat _ _ _ _ _ h1
  obtain ⟨a2, b2⟩ := readFull_flat _ _ _ _ _ h2
  rw [a1, a2, b1, b2, h]
  exact ⟨rfl, rfl⟩

/-- the connection model reads its input only through the flat stream: delivering the same
    bytes in any segmentation yields the identical result (transcript, events, fate) -/
theorem C03_segmentation (cfg : Config) (h : Handlers) (segs1 segs2 : Segs) (tin : Bytes)
    (hflat : segs1.flatten = segs2.flatten) :
    serve cfg h segs1.flatten tin = serve cfg h segs2.flatten tin := by rw [hflat]

/-! ### 2. every message is consumed in exactly its declared length -/

/-- whatever a complete message contains — surplus fields, unread fields, bytes that look
    like other messages — reading it leaves the stream exactly at the next message -/
theorem C03_exact_consumption (L : Nat) (t : UInt8) (body rest : Bytes)
    (h2 : body.length + 4 < 4294967296) :
    ∃ it, readItem L (frame t body ++ rest) = some (it, rest) := by
  by_cases h1 : body.length ≤ L
  · exact ⟨_, C10.C10_accept L t body rest h1 h2⟩
  · exact ⟨_, C10.C10_skip L t body rest (by omega) h2⟩

theorem deframeAux_step (L : Nat) (inp rest : Bytes) (fuel : Nat) (it : Item)
    (hr : readItem L inp = some (it, rest)) :
    deframeAux L (fuel + 1) inp = it :: deframeAux L fuel rest := by
  simp only [deframeAux, hr]

/-- a stream of in-limit messages deframes to exactly those messages, one item per message,
    bodies byte-exact: the interpretation of message k+1 cannot depend on message k's content -/
theorem C03_framing (L : Nat) (ms : List (UInt8 × Bytes))
    (h : ∀ m ∈ ms, m.2.length ≤ L ∧ m.2.length + 4 < 4294967296) :
    ∀ fuel, ms.length ≤ fuel →
      deframeAux L fuel (ms.flatMap fun m => frame m.1 m.2) = ms.map fun m => Item.msg m.1 m.2 := by
  induction ms with
  | nil => intro fuel _; cases fuel <;> simp [deframeAux, readItem]
  | cons m ms ih =>
    intro fuel hf
    obtain ⟨⟨h1, h2⟩, hms⟩ := List.forall_mem_cons.mp h
    cases fuel with
    | zero => simp at hf
    | succ fuel =>
      have hf' : ms.length ≤ fuel := by simpa using hf
      simp only [List.flatMap_cons, List.map_cons]
      rw [deframeAux_step L _ _ fuel _ (C10.C10_accept L m.1 m.2 _ h1 h2), ih hms fuel hf']

/-! ### 3. the field accessors agree with an independent cursor and never pass the end -/

theorem cstr_findIdx : ∀ (m : Bytes),
    cstr m = (m.findIdx? (· = 0)).map fun i => (m.take i, m.drop (i + 1)) := by
  intro m
  induction m with
  | nil => simp [cstr]
  | cons b m ih =>
    unfold cstr
    by_cases hb : b = 0
    · simp [hb, List.findIdx?_cons]
    · simp only [hb, if_false, ih, List.findIdx?_cons, decide_false, Bool.false_eq_true]
      cases m.findIdx? (· = 0) with
      | none => simp
      | some i => simp

theorem u16_step (m : Bytes) : modelStep m .u16 = if 2 ≤ m.length then (some (m.take 2), m.drop 2) else (none, m) := by
  rcases m with _ | ⟨a, _ | ⟨b, r⟩⟩ <;> simp [modelStep, getU16, rd16]

theorem u32_step (m : Bytes) : modelStep m .u32 = if 4 ≤ m.length then (some (m.take 4), m.drop 4) else (none, m) := by
  rcases m with _ | ⟨a, _ | ⟨b, _ | ⟨c, _ | ⟨d, r⟩⟩⟩⟩ <;> simp [modelStep, getU32, rd32]

theorem bytes_step (m : Bytes) (n : Nat) : modelStep m (.bytes n) = if n ≤ m.length then (some (m.take n), m.drop n) else (none, m) := by
  simp only [modelStep, getBytes]
  by_cases h : m.length < n
  · rw [if_pos h, if_neg (by omega)]
  · rw [if_neg h, if_pos (by omega)]

theorem fixed_agree (body : Bytes) (pos n : Nat) (hp : pos ≤ body.length) :
    let ms := if n ≤ (body.drop pos).length then (some ((body.drop pos).take n), (body.drop pos).drop n) else ((none : AccRes), body.drop pos)
    let cs := if pos + n ≤ body.length then (some ((body.drop pos).take n), pos + n) else ((none : AccRes), pos)
    ms.1 = cs.1 ∧ ms.2 = body.drop cs.2 ∧ cs.2 ≤ body.length := by
  intro ms cs
  have hl : (body.drop pos).length = body.length - pos := List.length_drop
  by_cases h : pos + n ≤ body.length
  · simp only [ms, cs, if_pos h, if_pos (show n ≤ (body.drop pos).length by omega), List.drop_drop, true_and]
    exact h
  · simp only [ms, cs, if_neg h, if_neg (show ¬ n ≤ (body.drop pos).length by omega), true_and]
    exact hp

theorem step_agree (body : Bytes) (pos : Nat) (hp : pos ≤ body.length) (a : Acc) :
    (modelStep (body.drop pos) a).1 = (cursorStep body pos a).1 ∧
    (modelStep (body.drop pos) a).2 = body.drop (cursorStep body pos a).2 ∧
    (cursorStep body pos a).2 ≤ body.length := by
  cases a with
  | str =>
    simp only [modelStep, getString, cstr_findIdx, cursorStep, findNul]
    cases hfi : (body.drop pos).findIdx? (· = 0) with
    | none => exact ⟨rfl, rfl, hp⟩
    | some i =>
      obtain ⟨hi, _⟩ := List.findIdx?_eq_some_iff_getElem.mp hfi
      simp only [List.length_drop] at hi
      refine ⟨?_, ?_, ?_⟩
      · simp
      · simp only [Option.map_some, List.drop_drop]; congr 1; omega
      · simp only [Option.map_some]; omega
  | bytes n => rw [bytes_step]; exact fixed_agree body pos n hp
  | u16 => rw [u16_step]; exact fixed_agree body pos 2 hp
  | u32 => rw [u32_step]; exact fixed_agree body pos 4 hp

/-- **C03 (accessors).** For every message body and every sequence of accessor calls with
    non-negative sizes, the accessors of the reader return what an independent cursor over the
    body returns — data exactly when the cursor stays within the body (for strings: a NUL is
    found), an error otherwise —, they never read beyond the current message
    (`pos ≤ body.length` throughout), and the reader's remaining window is `body.drop pos`. -/
theorem C03_accessors (body : Bytes) (ops : List Acc) :
    ∀ pos, pos ≤ body.length →
      (modelRun (body.drop pos) ops).1 = (cursorRun body pos ops).1 ∧
      (modelRun (body.drop pos) ops).2 = body.drop (cursorRun body pos ops).2 ∧
      (cursorRun body pos ops).2 ≤ body.length := by
  induction ops with
  | nil => intro pos hp; simp [modelRun, cursorRun, hp]
  | cons a as ih =>
    intro pos hp
    obtain ⟨hr, hmsg, hpos⟩ := step_agree body pos hp a
    simp only [modelRun, cursorRun]
    rw [hmsg, hr]
    have := ih (cursorStep body pos a).2 hpos
    exact ⟨by rw [this.1], this.2.1, this.2.2⟩

/-- non-vacuity: a Bind-like body read with a call that would pass the end -/
example : modelRun [97, 0, 0, 2, 120] [.str, .u16, .bytes 2, .u32, .bytes 1] =
    ([some [97], some [0, 2], none, none, some [120]], []) := by decide

end Pw.Props.C03
