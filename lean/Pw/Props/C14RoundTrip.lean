import Pw.Props.C14
import Pw.Props.C09
/-
  C14 — exactly the rows the client encoded: the flat row decoder inverts the client-side
  encoding of a row for every value the column codecs round-trip (C09).  With the simulation
  theorems of Props/C14 (the reassembling reader = the flat decoder on the concatenated stream,
  however the stream is cut into CopyData messages) this is the end-to-end statement.
-/
namespace Pw.Props.C14
open Pw.Spec

/-- what a client puts on the wire for one field of a binary COPY row -/
def encBinField (o : Nat) (v : Val) : Option Bytes :=
  match encodeVal o 1 v with
  | .ok none => some (be32 4294967295)
  | .ok (some b) => some (be32 b.length ++ b)
  | _ => none

/-- a value the column's binary codec round-trips and whose encoding fits the limit -/
def FieldOK (L : Nat) (o : Nat) (v : Val) : Prop :=
  match encodeVal o 1 v with
  | .ok none => True
  | .ok (some b) => b.length ≤ L ∧ b.length < 4294967295 ∧ decodeVal o 1 (some b) = .ok v
  | _ => False

/-- what the reader hands back: the three NULL forms are one NULL -/
def asRead (o : Nat) (v : Val) : Val :=
  match encodeVal o 1 v with
  | .ok none => .null
  | _ => v

def encFieldsBin : List Nat → List Val → Option Bytes
  | [], [] => some []
  | o :: os, v :: vs => do
    let a ← encBinField o v
    let r ← encFieldsBin os vs
    pure (a ++ r)
  | _, _ => none

def readVals : List Nat → List Val → List Val
  | o :: os, v :: vs => asRead o v :: readVals os vs
  | _, _ => []

theorem fTakeLength_be32 (L n : Nat) (rest : Bytes) (hn : n < 4294967296) (hl : n = 4294967295 ∨ n ≤ L) :
    fTakeLength L (be32 n ++ rest) = .ok n rest := by
  have ht : fTake 4 (be32 n ++ rest) = .ok (be32 n) rest := fTake_append (be32 n) rest
  rw [fTakeLength, ht]
  dsimp only
  rw [rd32_be32' n hn]
  dsimp only
  rw [if_neg (by omega)]

theorem fFields_cons (L : Nat) {o : Nat} {os : List Nat} {v : Val} {a tail : Bytes} {vs : List Val} {V : Bytes}
    (ha : encBinField o v = some a) (hf : FieldOK L o v) (ht : fFields L os tail = .ok vs V) :
    fFields L (o :: os) (a ++ tail) = .ok (asRead o v :: vs) V := by
  unfold encBinField at ha
  unfold FieldOK at hf
  unfold asRead
  cases hev : encodeVal o 1 v with
  | err => rw [hev] at ha; cases ha
  | panic f => rw [hev] at ha; cases ha
  | unsupported => rw [hev] at ha; cases ha
  | ok ob =>
    rw [hev] at ha hf
    cases ob with
    | none =>
      cases ha
      rw [fFields, fTakeLength_be32 L 4294967295 _ (by omega) (Or.inl rfl)]
      dsimp only
      rw [if_pos rfl, ht]
    | some b =>
      cases ha
      obtain ⟨h1, h2, h3⟩ := hf
      rw [fFields, List.append_assoc, fTakeLength_be32 L b.length _ (by omega) (Or.inr h1)]
      dsimp only
      rw [if_neg (by omega), fTake_append b tail]
      dsimp only
      rw [h3]
      dsimp only
      rw [ht]

/-- **the fields of a row**: decoding the client-side encoding of a row gives the row back -/
theorem fFields_roundtrip (L : Nat) : ∀ (oids : List Nat) (vals : List Val) (enc rest : Bytes),
    encFieldsBin oids vals = some enc → (∀ p ∈ oids.zip vals, FieldOK L p.1 p.2) →
    fFields L oids (enc ++ rest) = .ok (readVals oids vals) rest := by
  intro oids
  induction oids with
  | nil =>
    intro vals enc rest he _
    cases vals with
    | nil =>
      cases he
      rfl
    | cons v vs => cases he
  | cons o os ih =>
    intro vals enc rest he hok
    cases vals with
    | nil => cases he
    | cons v vs =>
      rw [encFieldsBin] at he
      cases ha : encBinField o v with
      | none => rw [ha] at he; cases he
      | some a =>
        cases hr : encFieldsBin os vs with
        | none => rw [ha, hr] at he; cases he
        | some r =>
          rw [ha, hr] at he
          cases he
          rw [List.append_assoc]
          exact fFields_cons L ha (hok (o, v) (by simp))
            (ih vs r rest hr (fun p hp => hok p (by simp [hp])))

/-- **C14 (exactly the rows the client encoded).** A row whose values the column codecs round-trip
    (C09: integers of every width over their whole range, text, bytea, bool, uuid; the three NULL
    forms) and whose encodings fit the limit is read back value for value, NULL fields as NULL,
    and the rest of the stream is left untouched. -/
theorem C14_roundtrip (L : Nat) (oids : List Nat) (vals : List Val) (enc rest : Bytes)
    (hn : oids.length < 65535) (he : encFieldsBin oids vals = some enc)
    (hok : ∀ p ∈ oids.zip vals, FieldOK L p.1 p.2) :
    fRow L oids (be16 oids.length ++ enc ++ rest) = .row (readVals oids vals) rest := by
  rw [List.append_assoc, fRow_count L oids oids.length (enc ++ rest) (by omega) (by omega), if_neg (by simp),
    fFields_roundtrip L oids vals enc rest he hok]

/-- the per-field hypothesis is what C09 proves, e.g. for an int4 column: every int32 -/
example (i : Int) (h1 : -2147483648 ≤ i) (h2 : i ≤ 2147483647) : FieldOK 100 Oid.int4 (.int i) := by
  have hr : intRange Oid.int4 = some (-2147483648, 2147483647) := by decide
  have henc : encodeVal Oid.int4 1 (.int i) = .ok (some (be32 (toU32 i))) := by
    have hrange : ¬ (i < -2147483648 ∨ i > 2147483647) := by omega
    simp [encodeVal, encodeTyped, supportedOid, Oid.int4, Oid.int2, hrange, intRange, intWidth, beInt]
  unfold FieldOK
  rw [henc]
  exact ⟨by simp, by simp, C09.C09_int_binary Oid.int4 i _ _ hr h1 h2 _ henc⟩

end Pw.Props.C14
