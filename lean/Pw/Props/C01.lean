import Pw.Lemmas.Serve
/-
  C01 — rejected credentials never yield a session.
-/
namespace Pw.Props.C01

/-- the strategy accepted this connection: the first message after the startup packet is a
    well-formed password message and the validator accepts its content -/
def Accepted (h : Handlers) (db user : Bytes) (i : Inp) : Prop :=
  ∃ body i' pw rest, i.next = (.item (.msg (ch 'p') body), i') ∧ cstr body = some (pw, rest) ∧
    h.validate db user pw = .accept

/-- what a non-accepting authentication exchange may have written / run: the password request,
    at most one ErrorResponse, and at most the validator callback -/
def Harmless (s s' : Sess) : Prop :=
  (s'.out = s.out ∨ s'.out = .auth 3 :: s.out ∨
    s'.out = .error (errorBody (flatten (some errInvalidPassword))) :: .auth 3 :: s.out) ∧
  (s'.ev = s.ev ∨ ∃ db user pw, s'.ev = .validate db user pw :: s.ev)

/-- **C01 (only if).** With an authentication strategy configured, the connection gets past
    authentication only if the strategy accepted its credentials. -/
theorem C01_only_if (cfg : Config) (h : Handlers) (s : Sess) (db user : Bytes) (ha : cfg.auth = true)
    (hp : (authPhase cfg h s db user).2 = none) :
    ∃ s1, s.send (.auth 3) = (s1, true) ∧ Accepted h db user s1.inp := by
  refine authPhase_cases
    (P := fun r => r.2 = none → ∃ s1, s.send (.auth 3) = (s1, true) ∧ Accepted h db user s1.inp)
    cfg h s db user ?_ ?_ ?_ ?_ hp
  · intro _ _ hf
    rw [ha] at hf
    cases hf
  · intro _ _ hc
    cases hc
  · intro s1 i e _ _ _ hc
    cases hc
  · intro s1 body i pw r _ hs hnx _ hc sv _
    exact ⟨fun _ => nofun, fun _ => nofun, fun hv _ _ _ _ => ⟨s1, hs, body, i, pw, r, hnx, hc, hv⟩⟩

/-- **C01 (gate).** In every non-accepting case — the validator answers false or fails, the
    client sends another message type, a malformed or oversized message, or nothing more — the
    exchange ends the connection (or waits for the missing bytes) having written nothing but the
    password request and, for a wrong password, one ErrorResponse; no AuthenticationOk, no
    ParameterStatus, no ReadyForQuery; and the only callback that ran is the validator. -/
theorem C01_gate (cfg : Config) (h : Handlers) (s : Sess) (db user : Bytes) (ha : cfg.auth = true)
    (e : End) (hp : (authPhase cfg h s db user).2 = some e) :
    Harmless s (authPhase cfg h s db user).1 ∧ (e = .closed ∨ e = .waiting) := by
  refine authPhase_cases
    (P := fun r => ∀ e, r.2 = some e → Harmless s r.1 ∧ (e = .closed ∨ e = .waiting))
    cfg h s db user ?_ ?_ ?_ ?_ e hp
  · intro _ _ hf
    rw [ha] at hf
    cases hf
  · intro _ _ e he
    cases he
    exact ⟨⟨Or.inl rfl, Or.inl rfl⟩, Or.inl rfl⟩
  · intro s1 i e' _ hs he e hp
    cases hp
    obtain ⟨w, _, rfl⟩ := send_true hs
    exact ⟨⟨Or.inr (Or.inl rfl), Or.inl rfl⟩, he.imp id And.left⟩
  · intro s1 body i pw r _ hs _ _ _ sv hsv
    obtain ⟨w, _, rfl⟩ := send_true hs
    have asked : Harmless s sv := hsv ▸ ⟨Or.inr (Or.inl rfl), Or.inr ⟨db, user, pw, rfl⟩⟩
    refine ⟨fun _ e he => ?_, fun _ e he => ?_, fun _ s' ok hs' e he => ?_⟩
    · cases he
      exact ⟨asked, Or.inl rfl⟩
    · cases he
      refine ⟨?_, Or.inl rfl⟩
      unfold sendError
      rcases hs2 : sv.send (.error (errorBody (flatten (some errInvalidPassword)))) with ⟨s2, _ | _⟩
      · rw [(send_false hs2).1]
        exact asked
      · obtain ⟨w2, _, rfl⟩ := send_true hs2
        exact hsv ▸ ⟨Or.inr (Or.inr rfl), Or.inr ⟨db, user, pw, rfl⟩⟩
    · cases ok with
      | true => cases he
      | false =>
        cases he
        rw [(send_false hs').1]
        exact ⟨asked, Or.inl rfl⟩

/-- a wrong password is reported with SQLSTATE class 28 -/
theorem C01_class28 : (flatten (some errInvalidPassword)).code = [50, 56, 80, 48, 49] := by decide

/-- **nothing afterwards is parsed or executed**: when authentication does not succeed the
    whole connection's result is the authentication exchange's — whatever bytes follow, in the
    same segment or later -/
theorem C01_no_session (cfg : Config) (h : Handlers) (s0 : Sess) (body rest : Bytes) (cp : List (Bytes × Bytes))
    (hcp : readClientParams (body.length + 1) body [] = some cp) (e : End)
    (hp : (authPhase cfg h (sessionStart s0 rest)
            ((lookup (ascii "database") cp).getD []) ((lookup (ascii "user") cp).getD [])).2 = some e) :
    let a := authPhase cfg h (sessionStart s0 rest)
            ((lookup (ascii "database") cp).getD []) ((lookup (ascii "user") cp).getD [])
    let r := serveAfterVersion cfg h s0 body rest
    r.msgs = a.1.out.reverse ∧ r.ev = a.1.ev.reverse ∧ r.ending = e := by
  intro a r
  simp only [r, serveAfterVersion, hcp]
  rcases ha : authPhase cfg h (sessionStart s0 rest)
            ((lookup (ascii "database") cp).getD []) ((lookup (ascii "user") cp).getD []) with ⟨s1, oe⟩
  have : oe = some e := by rw [ha] at hp; exact hp
  subst this
  simp [a, ha, finish]

end Pw.Props.C01
