import Pw.Props.TieFraming
import Pw.Model.Session
import Pw.Generated.TransCopy
/-
  copy.go (`CopyReader.Read`, `BinaryCopyReader.fill/take/takeLength/skipHeader`) against the COPY-in readers of
  Model/Session.lean (`copyRead`, `binFill`, `binTake`, `binTakeLength`, `binSkipHeader`), case by case:
  `CopyRead_round`, `fill_round` and `take_unfold` state a body once, and a case is the path its hypotheses take through it.
  `Pw/Generated/TransCopy.lean` is regenerated from /repo/copy.go on every check run (`go/translate -copy`, run-time
  semantics in Pw/Go/RtCopy.lean): when the source changes, these proofs are re-checked against what it has become.
-/
namespace Pw.Tie
open Pw.Go

/-! ### the translator handled everything; struct layouts and constants as mirrored in RtCopy.lean / the model -/
example : TransCopy.untranslatable = [] := rfl
example : TransCopy.structCopyReader = [("", "*buffer.Reader"), ("writer", "*buffer.Writer"), ("columns", "Columns"),
    ("chunk", "[]byte")] := rfl
example : TransCopy.structBinaryCopyReader = [("typeMap", "*pgtype.Map"), ("reader", "*CopyReader"),
    ("scanners", "[]Scanner"), ("pending", "[]byte"), ("started", "bool"), ("done", "bool")] := rfl
example : TransCopy.CopySignature = copySignature := rfl

def setBase (w : CWorld) (b : World) : CWorld := { w with base := b }

theorem unwrap_none : unwrapSizeExceeded none = ({}, false) := rfl
theorem unwrap_size (max size : Int) :
    unwrapSizeExceeded (some (.lib (.sizeExceeded max size))) = ({ Size := size, Max := max }, true) := rfl
theorem unwrap_lib (e : Go.Err) (he : ∀ max size, e ≠ .sizeExceeded max size) :
    unwrapSizeExceeded (some (.lib e)) = ({}, false) := by
  cases e with
  | sizeExceeded max size => exact absurd rfl (he max size)
  | _ => rfl

theorem liftR_ok {α} (a : α) (b : World) (w : CWorld) : liftR (.ok a b) w = .ok a (setBase w b) := rfl
theorem liftErr_none : liftErr none = none := rfl
theorem liftErr_some (e : Go.Err) : liftErr (some e) = some (.lib e) := rfl
theorem not_none_ne_none {α} : ¬ ((none : Option α) ≠ none) := not_not_intro rfl

/-! ### (a) `CopyReader.Read`, branch by branch of its `switch` on the message type
  (100 'd' CopyData, 99 'c' CopyDone, 102 'f' CopyFail, 72 'H' Flush, 83 'S' Sync) -/

/-- `Read` from `if err != nil` on: the translator emits this tail once per branch of `if exceeded, has := …; has` -/
def copyReadTail (fuel : Nat) (t : UInt8) (err : Option CErr) (w : CWorld) : COut (Option CErr) :=
  if err ≠ none then .ok err w
  else if t = 72 ∨ t = 83 then TransCopy.CopyReader_Read fuel w
  else if t = 100 then .ok none w
  else if t = 99 then .ok (some (.lib .eof)) w
  else if t = 102 then
    (liftR (Trans.Reader_GetString w.base) w).bind fun t5 w =>
      if liftErr t5.2 ≠ none then .ok (liftErr t5.2) w else .ok (some (.copyFailed t5.1)) w
  else .ok (some (.unimplemented t)) w

theorem CopyRead_round (fuel : Nat) (w : CWorld) :
    TransCopy.CopyReader_Read (fuel + 1) w =
      (liftR (Trans.Reader_ReadTypedMsg w.base) w).bind fun t1 w =>
        if (unwrapSizeExceeded (liftErr t1.2.2)).2 = true then
          (liftR (Trans.Reader_Slurp fuel (unwrapSizeExceeded (liftErr t1.2.2)).1.Size w.base) w).bind fun t3 w =>
            if liftErr t3 ≠ none then .ok (liftErr t3) w else copyReadTail fuel t1.1 (liftErr t1.2.2) w
        else copyReadTail fuel t1.1 (liftErr t1.2.2) w := rfl

theorem tie_CopyRead_fuel0 (w : CWorld) : TransCopy.CopyReader_Read 0 w = .fuel := rfl

/-- `ReadTypedMsg` returned nil: no size error (`unwrap_none`), so the tail, in which the `switch` on the type decides -/
theorem CopyRead_nil (fuel : Nat) {w : CWorld} {w' : World} {t : UInt8} {n : Int}
    (h : Trans.Reader_ReadTypedMsg w.base = .ok (t, n, none) w') :
    TransCopy.CopyReader_Read (fuel + 1) w = copyReadTail fuel t none (setBase w w') := by
  rw [CopyRead_round, h, liftR_ok, COut.bind, liftErr_none, unwrap_none, if_neg Bool.false_ne_true]

theorem tie_CopyRead_data (fuel : Nat) (w : CWorld) (w' : World) (n : Int)
    (h : Trans.Reader_ReadTypedMsg w.base = .ok (100, n, none) w') :
    TransCopy.CopyReader_Read (fuel + 1) w = .ok none (setBase w w') := by
  rw [CopyRead_nil fuel h, copyReadTail, if_neg not_none_ne_none, if_neg (by decide), if_pos rfl]

theorem tie_CopyRead_skip (fuel : Nat) (w : CWorld) (w' : World) (t : UInt8) (n : Int)
    (h : Trans.Reader_ReadTypedMsg w.base = .ok (t, n, none) w') (ht : t = 72 ∨ t = 83) :
    TransCopy.CopyReader_Read (fuel + 1) w = TransCopy.CopyReader_Read fuel (setBase w w') := by
  rw [CopyRead_nil fuel h, copyReadTail, if_neg not_none_ne_none, if_pos ht]

theorem tie_CopyRead_done (fuel : Nat) (w : CWorld) (w' : World) (n : Int)
    (h : Trans.Reader_ReadTypedMsg w.base = .ok (99, n, none) w') :
    TransCopy.CopyReader_Read (fuel + 1) w = .ok (some (.lib .eof)) (setBase w w') := by
  rw [CopyRead_nil fuel h, copyReadTail, if_neg not_none_ne_none, if_neg (by decide), if_neg (by decide), if_pos rfl]

theorem tie_CopyRead_other (fuel : Nat) (w : CWorld) (w' : World) (t : UInt8) (n : Int)
    (h : Trans.Reader_ReadTypedMsg w.base = .ok (t, n, none) w')
    (ht : t ≠ 72 ∧ t ≠ 83 ∧ t ≠ 100 ∧ t ≠ 99 ∧ t ≠ 102) :
    TransCopy.CopyReader_Read (fuel + 1) w = .ok (some (.unimplemented t)) (setBase w w') := by
  obtain ⟨h72, h83, h100, h99, h102⟩ := ht
  rw [CopyRead_nil fuel h, copyReadTail, if_neg not_none_ne_none, if_neg (not_or.2 ⟨h72, h83⟩), if_neg h100, if_neg h99,
    if_neg h102]

/-- CopyFail: the description is the model's `getString` (= `cstr`) of the message body -/
theorem tie_CopyRead_fail (fuel : Nat) (w : CWorld) (w' : World) (n : Int)
    (h : Trans.Reader_ReadTypedMsg w.base = .ok (102, n, none) w') (hwf : Sl.WF w'.reader.Msg) :
    TransCopy.CopyReader_Read (fuel + 1) w =
      match getString w'.reader.Msg.data with
      | some (desc, _) => .ok (some (.copyFailed desc)) (setBase w (setMsg w' (Sl.adv (desc.length + 1) w'.reader.Msg)))
      | none => .ok (some (.lib .missingNul)) (setBase w w') := by
  have hg : Trans.Reader_GetString (setBase w w').base = _ := tie_GetString w' hwf
  rw [CopyRead_nil fuel h, copyReadTail, if_neg not_none_ne_none, if_neg (by decide), if_neg (by decide),
    if_neg (by decide), if_pos rfl, hg]
  cases getString w'.reader.Msg.data with
  | none => rfl
  | some p => rfl

/-- an oversized message: its body is skipped, then the size error is returned (or the skip's error) -/
theorem tie_CopyRead_exceeded (fuel : Nat) (w : CWorld) (w' : World) (t : UInt8) (n max size : Int)
    (h : Trans.Reader_ReadTypedMsg w.base = .ok (t, n, some (.sizeExceeded max size)) w') :
    TransCopy.CopyReader_Read (fuel + 1) w =
      match Trans.Reader_Slurp fuel size w' with
      | .ok none w'' => .ok (some (.lib (.sizeExceeded max size))) (setBase w w'')
      | .ok (some e) w'' => .ok (some (.lib e)) (setBase w w'')
      | .panic m => .panic m
      | .block => .block
      | .fuel => .fuel := by
  rw [CopyRead_round, h, liftR_ok, COut.bind, liftErr_some, unwrap_size, if_pos rfl]
  show (liftR (Trans.Reader_Slurp fuel size w') (setBase w w')).bind _ = _
  cases Trans.Reader_Slurp fuel size w' with
  | ok e w'' => cases e <;> rfl
  | _ => rfl

theorem tie_CopyRead_err (fuel : Nat) (w : CWorld) (w' : World) (t : UInt8) (n : Int) (e : Go.Err)
    (h : Trans.Reader_ReadTypedMsg w.base = .ok (t, n, some e) w') (he : ∀ max size, e ≠ .sizeExceeded max size) :
    TransCopy.CopyReader_Read (fuel + 1) w = .ok (some (.lib e)) (setBase w w') := by
  rw [CopyRead_round, h, liftR_ok, COut.bind, liftErr_some, unwrap_lib e he, if_neg Bool.false_ne_true, copyReadTail,
    if_pos (Option.some_ne_none _)]

theorem tie_CopyRead_nonok (fuel : Nat) (w : CWorld) :
    (Trans.Reader_ReadTypedMsg w.base = .block → TransCopy.CopyReader_Read (fuel + 1) w = .block) ∧
    (∀ m, Trans.Reader_ReadTypedMsg w.base = .panic m → TransCopy.CopyReader_Read (fuel + 1) w = .panic m) ∧
    (Trans.Reader_ReadTypedMsg w.base = .fuel → TransCopy.CopyReader_Read (fuel + 1) w = .fuel) := by
  rw [CopyRead_round]
  exact ⟨fun h => by rw [h]; rfl, fun m h => by rw [h]; rfl, fun h => by rw [h]; rfl⟩

/-! ### (b) on a stream whose next item is a complete in-limit message: the model's `copyRead` -/

/-- `fmt.Sprintf(format, ints…)` for formats whose only verb is `%d` -/
def fmtD : Bytes → List Int → Bytes
  | [], _ => []
  | [c], _ => [c]
  | c :: d :: r, as =>
    if c = 37 ∧ d = 100 then
      match as with
      | a :: as' => decInt a ++ fmtD r as'
      | [] => c :: d :: fmtD r []
    else c :: fmtD (d :: r) as

def absLib : Go.Err → Pw.Err
  | .eof => .base (ascii "EOF")
  | .unexpectedEOF => errUnexpectedEOF
  | .readErr => errRead
  | .writeErr => errWrite
  | .sizeExceeded max size => errSizeExceeded max.toNat size
  | .missingNul => errMissingNul
  | .insufficient n => errInsufficient n.toNat

/-- `absErr`: what the handler gets, in the model's terms (`wrap` mirrors `wrapOp`; errors of the
    external scanners are the model's opaque pgx decode error) -/
def absErr : CErr → OpErr
  | .lib e => .lib (absLib e)
  | .copyFailed d => .lib (errCopyFailed d)
  | .unimplemented t => .lib (errUnimplemented t)
  | .new text => .lib (.base text)
  | .errorf f args => .lib (.base (fmtD f args))
  | .wrap pre post e => (match absErr e with | .lib e' => .lib (.wrap pre post e') | o => o)
  | .wrapNil pre post => .lib (.base (pre ++ ascii "%!w(<nil>)" ++ post))
  | .ext _ => .pgxDec

/-- the result of `CopyReader.Read` as the handler program sees it -/
def absCopyRes (e : Option CErr) (msg : Bytes) : CopyRes :=
  match e with
  | none => .data msg
  | some (.lib .eof) => .eof
  | some e => .err (absErr e)

def Adv (w w1 : CWorld) (rest : Bytes) : Prop :=
  ReaderOK w1.base ∧ w1.base.src = rest ∧ w1.base.reader.MaxMessageSize = w.base.reader.MaxMessageSize ∧
  w1.base.fin = w.base.fin ∧ w1.bin = w.bin ∧ w1.ctxErr = w.ctxErr ∧ w1.scan = w.scan

theorem readTyped_msg (w : CWorld) (ok : ReaderOK w.base) (t : UInt8) (body rest : Bytes)
    (h : readItem w.base.reader.MaxMessageSize.toNat w.base.src = some (.msg t body, rest)) :
    ∃ n w', Trans.Reader_ReadTypedMsg w.base = .ok (t, n, none) w' ∧ Adv w (setBase w w') rest ∧ w'.reader.Msg.data = body := by
  obtain ⟨a, b, c, d, r, hsrc, hb, hr, hle, hrt⟩ := tie_ReadTypedMsg_msg w.base ok t body rest h
  have hL := readItem_msg_len _ _ _ _ _ h
  have hmax := ok.max
  -- `afterMsg` overwrites `src`: the world in `hrt` is `afterMsg w.base …` by `rfl`
  have okA := afterMsg_ok w.base ok [a, b, c, d] r body.length rfl hle (by omega)
  obtain ⟨_, hfin, _, _, _, _, hmx, _⟩ :=
    resetSpec_frame body.length (setHeader { w.base with src := r } [a, b, c, d])
  exact ⟨_, _, hrt, ⟨okA, hr.symm, hmx, hfin, rfl, rfl, rfl⟩, hb.symm⟩

/-- a message the backend ignores during copy-in (Flush, Sync): both sides go on to the next message -/
theorem tie_CopyRead_msg_skip (fuel mf : Nat) (w : CWorld) (ok : ReaderOK w.base) (t : UInt8) (body rest : Bytes)
    (its : List Item) (tl : Tail) (m : Bytes) (u : Bool)
    (h : readItem w.base.reader.MaxMessageSize.toNat w.base.src = some (.msg t body, rest)) (ht : t = 72 ∨ t = 83) :
    ∃ w1, TransCopy.CopyReader_Read (fuel + 1) w = TransCopy.CopyReader_Read fuel w1 ∧ Adv w w1 rest ∧
      w1.base.reader.Msg.data = body ∧
      copyRead (mf + 1) { L := w.base.reader.MaxMessageSize.toNat, items := .msg t body :: its, tail := tl, msg := m, unsup := u } =
        copyRead mf { L := w.base.reader.MaxMessageSize.toNat, items := its, tail := tl, msg := body, unsup := u } := by
  obtain ⟨n, w', hrt, hadv, hmsg⟩ := readTyped_msg w ok t body rest h
  refine ⟨setBase w w', tie_CopyRead_skip fuel w w' t n hrt ht, hadv, hmsg, ?_⟩
  rcases ht with ht | ht <;> subst ht <;> simp [copyRead, Inp.next, ch]

/-- any other complete in-limit message: `Read` returns, and what it returns is the model's `copyRead`
    step (`.data body` / `.eof` / the error values through `absErr`), with `reader.Msg` = the model's `msg` -/
theorem tie_CopyRead_msg (fuel mf : Nat) (w : CWorld) (ok : ReaderOK w.base) (t : UInt8) (body rest : Bytes)
    (its : List Item) (tl : Tail) (m : Bytes) (u : Bool)
    (h : readItem w.base.reader.MaxMessageSize.toNat w.base.src = some (.msg t body, rest)) (ht : ¬ (t = 72 ∨ t = 83)) :
    ∃ e w1, TransCopy.CopyReader_Read (fuel + 1) w = .ok e w1 ∧ Adv w w1 rest ∧
      (t = 100 → e = none ∧ w1.base.reader.Msg.data = body) ∧ (t = 99 → e = some (.lib .eof)) ∧
      (t ≠ 100 → e ≠ none) ∧
      copyRead (mf + 1) { L := w.base.reader.MaxMessageSize.toNat, items := .msg t body :: its, tail := tl, msg := m, unsup := u } =
        (some (absCopyRes e w1.base.reader.Msg.data),
         { L := w.base.reader.MaxMessageSize.toNat, items := its, tail := tl, msg := w1.base.reader.Msg.data, unsup := u }) := by
  obtain ⟨n, w', hrt, hadv, hmsg⟩ := readTyped_msg w ok t body rest h
  have h72 : t ≠ 72 := fun e => ht (Or.inl e)
  have h83 : t ≠ 83 := fun e => ht (Or.inr e)
  by_cases h100 : t = 100
  · subst h100
    refine ⟨none, setBase w w', tie_CopyRead_data fuel w w' n hrt, hadv, fun _ => ⟨rfl, hmsg⟩, by decide, by simp, ?_⟩
    simp [copyRead, Inp.next, ch, absCopyRes, setBase, hmsg]
  by_cases h99 : t = 99
  · subst h99
    refine ⟨_, setBase w w', tie_CopyRead_done fuel w w' n hrt, hadv, nofun, fun _ => rfl, by simp, ?_⟩
    simp [copyRead, Inp.next, ch, absCopyRes, setBase, hmsg]
  by_cases h102 : t = 102
  · subst h102
    have hwf : Sl.WF w'.reader.Msg := hadv.1.wf
    have e := tie_CopyRead_fail fuel w w' n hrt hwf
    cases hg : getString w'.reader.Msg.data with
    | none =>
      rw [hg] at e
      refine ⟨_, setBase w w', e, hadv, nofun, nofun, by simp, ?_⟩
      rw [hmsg] at hg
      simp [getString] at hg
      simp [copyRead, Inp.next, ch, absCopyRes, setBase, hmsg, hg, absErr, absLib]
    | some p =>
      obtain ⟨desc, r'⟩ := p
      rw [hg] at e
      obtain ⟨_, _, h4⟩ := cstr_take_drop hg
      obtain ⟨k1, k2, k3, k4, k5, k6, k7⟩ := hadv
      refine ⟨_, _, e, ⟨⟨?_, adv_nilok _ _ k1.nilok, k1.hdr, k1.max⟩, k2, k3, k4, k5, k6, k7⟩, nofun, nofun, by simp, ?_⟩
      · exact adv_wf _ _ k1.wf
      · rw [hmsg] at hg h4
        simp [getString] at hg
        simp [copyRead, Inp.next, ch, absCopyRes, setBase, setMsg, Sl.adv, hmsg, hg, absErr, h4]
  · refine ⟨_, setBase w w', tie_CopyRead_other fuel w w' t n hrt ⟨h72, h83, h100, h99, h102⟩, hadv,
      fun e => absurd e h100, fun e => absurd e h99, by simp, ?_⟩
    simp [copyRead, Inp.next, ch, absCopyRes, setBase, hmsg, absErr, h72, h83, h100, h99, h102]

/-! ### (c) `BinaryCopyReader.fill`, `take`, `takeLength`, `skipHeader` -/

theorem fill_round (fuel : Nat) (size : Int) (w : CWorld) :
    TransCopy.BinaryCopyReader_fill (fuel + 1) size w =
      if (w.bin.pending.length : Int) < size then
        if w.bin.done = true then .ok (some (.lib .eof)) w
        else (TransCopy.CopyReader_Read fuel w).bind fun err w =>
          if err = some (.lib .eof) then .ok (some (.lib .eof)) { w with bin := { w.bin with done := true } }
          else if err ≠ none then .ok err w
          else chkC (Sl.sliceFrom w.base.junk w.base.reader.Msg w.base.reader.Msg.len) fun t2 =>
            TransCopy.BinaryCopyReader_fill fuel size
              { w with bin := { w.bin with pending := w.bin.pending ++ w.base.reader.Msg.data },
                       base := setMsg w.base t2 }
      else .ok none w := rfl

/-- enough bytes are pending: `fill` does nothing (first line of `binFill`) -/
theorem tie_fill_enough (fuel : Nat) (size : Int) (w : CWorld) (h : size ≤ (w.bin.pending.length : Int)) :
    TransCopy.BinaryCopyReader_fill (fuel + 1) size w = .ok none w := by
  rw [fill_round, if_neg (Int.not_lt.2 h)]

/-- the stream has ended before: `io.EOF` (second line of `binFill`) -/
theorem tie_fill_done (fuel : Nat) (size : Int) (w : CWorld) (h : (w.bin.pending.length : Int) < size)
    (hd : w.bin.done = true) :
    TransCopy.BinaryCopyReader_fill (fuel + 1) size w = .ok (some (.lib .eof)) w := by
  rw [fill_round, if_pos h, if_pos hd]

/-- what one iteration of the `fill` loop does to the world after `CopyReader.Read` returned nil:
    `pending = append(pending, Msg...)`, `Msg = Msg[len(Msg):]` -/
def fillStep (w : CWorld) : CWorld :=
  { w with bin := { w.bin with pending := w.bin.pending ++ w.base.reader.Msg.data },
           base := setMsg w.base (Sl.adv w.base.reader.Msg.data.length w.base.reader.Msg) }

theorem fillStep_facts (w : CWorld) :
    (fillStep w).bin.pending = w.bin.pending ++ w.base.reader.Msg.data ∧ (fillStep w).base.reader.Msg.data = [] ∧
    (fillStep w).bin.done = w.bin.done ∧ (fillStep w).bin.started = w.bin.started ∧
    (fillStep w).base.src = w.base.src ∧ (fillStep w).base.reader.MaxMessageSize = w.base.reader.MaxMessageSize ∧
    (fillStep w).base.fin = w.base.fin := by
  simp [fillStep, setMsg, Sl.adv]

theorem fillStep_ok (w : CWorld) (ok : ReaderOK w.base) : ReaderOK (fillStep w).base :=
  ⟨adv_wf _ _ ok.wf, adv_nilok _ _ ok.nilok, ok.hdr, ok.max⟩

/-- one iteration of the loop, `Read` returned nil: the message body moves to `pending` (the `.data p`
    line of `binFill`) -/
theorem tie_fill_step_data (fuel : Nat) (size : Int) (w w1 : CWorld) (h : (w.bin.pending.length : Int) < size)
    (hd : w.bin.done = false) (hr : TransCopy.CopyReader_Read fuel w = .ok none w1) (hwf : Sl.WF w1.base.reader.Msg) :
    TransCopy.BinaryCopyReader_fill (fuel + 1) size w = TransCopy.BinaryCopyReader_fill fuel size (fillStep w1) := by
  -- `Msg[len(Msg):]` does not panic (`sliceFrom_ok`); stated with the `Msg.len` of the generated code, which is
  -- `sliceFrom_ok`'s `(data.length : Int)` only after unfolding, so that `rw` finds it
  have hs : Sl.sliceFrom w1.base.junk w1.base.reader.Msg w1.base.reader.Msg.len = _ :=
    sliceFrom_ok w1.base.junk w1.base.reader.Msg w1.base.reader.Msg.data.length (Nat.le_refl _) hwf
  rw [fill_round, if_pos h, if_neg (Bool.eq_false_iff.1 hd), hr, COut.bind, if_neg nofun, if_neg not_none_ne_none, hs]
  rfl

/-- one iteration, `Read` returned `io.EOF` (CopyDone): `done` is set (the `.eof` line of `binFill`) -/
theorem tie_fill_step_eof (fuel : Nat) (size : Int) (w w1 : CWorld) (h : (w.bin.pending.length : Int) < size)
    (hd : w.bin.done = false) (hr : TransCopy.CopyReader_Read fuel w = .ok (some (.lib .eof)) w1) :
    TransCopy.BinaryCopyReader_fill (fuel + 1) size w =
      .ok (some (.lib .eof)) { w1 with bin := { w1.bin with done := true } } := by
  rw [fill_round, if_pos h, if_neg (Bool.eq_false_iff.1 hd), hr, COut.bind, if_pos rfl]

/-- one iteration, `Read` returned another error: it is passed on (the `.err e` line of `binFill`) -/
theorem tie_fill_step_err (fuel : Nat) (size : Int) (w w1 : CWorld) (e : CErr) (h : (w.bin.pending.length : Int) < size)
    (hd : w.bin.done = false) (hr : TransCopy.CopyReader_Read fuel w = .ok (some e) w1) (he : e ≠ .lib .eof) :
    TransCopy.BinaryCopyReader_fill (fuel + 1) size w = .ok (some e) w1 := by
  rw [fill_round, if_pos h, if_neg (Bool.eq_false_iff.1 hd), hr, COut.bind, if_neg (fun x => he (Option.some.inj x)),
    if_pos (Option.some_ne_none e)]

/-- `Read` blocks: so does `fill` (the `none` line of `binFill`) -/
theorem tie_fill_step_block (fuel : Nat) (size : Int) (w : CWorld) (h : (w.bin.pending.length : Int) < size)
    (hd : w.bin.done = false) (hr : TransCopy.CopyReader_Read fuel w = .block) :
    TransCopy.BinaryCopyReader_fill (fuel + 1) size w = .block := by
  rw [fill_round, if_pos h, if_neg (Bool.eq_false_iff.1 hd), hr, COut.bind]

/-- `fill` returns nil only where its loop ends, and there the test `len(pending) < size` has failed: every other way
    out of a round (`fill_round`) returns an error, panics, blocks, or is the next round -/
theorem fill_post (fuel : Nat) (size : Int) : ∀ (w w' : CWorld),
    TransCopy.BinaryCopyReader_fill fuel size w = .ok none w' → size ≤ (w'.bin.pending.length : Int) := by
  induction fuel with
  | zero => intro w w' h; cases h
  | succ fuel ih =>
    intro w w' h
    rw [fill_round] at h
    by_cases hp : (w.bin.pending.length : Int) < size
    · rw [if_pos hp] at h
      by_cases hd : w.bin.done = true
      · rw [if_pos hd] at h; cases h
      · rw [if_neg hd] at h
        cases hr : TransCopy.CopyReader_Read fuel w with
        | ok e w1 =>
          rw [hr, COut.bind] at h
          by_cases he : e = some (.lib .eof)
          · rw [if_pos he] at h; cases h
          · rw [if_neg he] at h
            by_cases hn : e ≠ none
            · rw [if_pos hn] at h; cases h; exact absurd rfl hn
            · rw [if_neg hn] at h
              cases hs : Sl.sliceFrom w1.base.junk w1.base.reader.Msg w1.base.reader.Msg.len with
              | error m => rw [hs] at h; cases h
              | ok s => rw [hs] at h; exact ih _ _ h
        | _ => rw [hr] at h; cases h
    · rw [if_neg hp] at h; cases h; omega

/-- the world after `take(size)` -/
def takeW (w : CWorld) (size : Nat) : CWorld := { w with bin := { w.bin with pending := w.bin.pending.drop size } }

theorem take_unfold (fuel : Nat) (size : Int) (w : CWorld) :
    TransCopy.BinaryCopyReader_take fuel size w =
      (TransCopy.BinaryCopyReader_fill fuel size w).bind fun err w =>
        if err = some (.lib .eof) then .ok ([], some (.lib .unexpectedEOF)) w
        else if err ≠ none then .ok ([], err) w
        else chkC (arrSlice w.bin.pending 0 size) fun value =>
          chkC (arrSlice w.bin.pending size (w.bin.pending.length : Int)) fun t3 =>
            .ok (value, none) { w with bin := { w.bin with pending := t3 } } := rfl

/-- `take` when `fill` returned nil: the front of `pending` is handed out and removed (the `.ok` line of
    `binTake`).  No slice expression can panic: `fill`'s postcondition is what `pending[:size]` needs. -/
theorem tie_take_ok (fuel : Nat) (size : Nat) (w w' : CWorld)
    (hf : TransCopy.BinaryCopyReader_fill fuel (size : Int) w = .ok none w') :
    TransCopy.BinaryCopyReader_take fuel (size : Int) w = .ok (w'.bin.pending.take size, none) (takeW w' size) := by
  have hp := fill_post fuel size w w' hf
  have h1 : ¬ ((w'.bin.pending.length : Int) < (size : Int)) := by omega
  have h2 : ¬ ((size : Int) < 0) := by omega
  rw [take_unfold, hf, COut.bind, if_neg nofun, if_neg not_none_ne_none]
  simp [chkC, arrSlice, h1, h2, takeW]

/-- `fill` returned `io.EOF`: `take` reports `io.ErrUnexpectedEOF` (the `.eof` line of `binTake`) -/
theorem tie_take_eof (fuel : Nat) (size : Int) (w w' : CWorld)
    (hf : TransCopy.BinaryCopyReader_fill fuel size w = .ok (some (.lib .eof)) w') :
    TransCopy.BinaryCopyReader_take fuel size w = .ok ([], some (.lib .unexpectedEOF)) w' := by
  rw [take_unfold, hf, COut.bind, if_pos rfl]

/-- `fill` returned another error: `take` passes it on (the `.err` line of `binTake`) -/
theorem tie_take_err (fuel : Nat) (size : Int) (w w' : CWorld) (e : CErr)
    (hf : TransCopy.BinaryCopyReader_fill fuel size w = .ok (some e) w') (he : e ≠ .lib .eof) :
    TransCopy.BinaryCopyReader_take fuel size w = .ok ([], some e) w' := by
  rw [take_unfold, hf, COut.bind, if_neg (fun x => he (Option.some.inj x)), if_pos (Option.some_ne_none e)]

theorem tie_take_block (fuel : Nat) (size : Int) (w : CWorld)
    (hf : TransCopy.BinaryCopyReader_fill fuel size w = .block) :
    TransCopy.BinaryCopyReader_take fuel size w = .block := by
  rw [take_unfold, hf, COut.bind]

/-- `take` never panics for a non-negative size, whatever the stream does -/
theorem take_no_panic (fuel : Nat) (size : Nat) (w : CWorld) (m : String)
    (hf : TransCopy.BinaryCopyReader_fill fuel (size : Int) w ≠ .panic m) :
    TransCopy.BinaryCopyReader_take fuel (size : Int) w ≠ .panic m := by
  cases hr : TransCopy.BinaryCopyReader_fill fuel (size : Int) w with
  | ok e w' =>
    cases e with
    | none => rw [tie_take_ok fuel size w w' hr]; simp
    | some e =>
      by_cases he : e = .lib .eof
      · subst he; rw [tie_take_eof fuel size w w' hr]; simp
      · rw [tie_take_err fuel size w w' e hr he]; simp
  | panic m' => rw [take_unfold, hr, COut.bind]; intro h; cases h; exact hf hr
  | block => rw [tie_take_block fuel size w hr]; simp
  | fuel => rw [take_unfold, hr, COut.bind]; simp

/-- the format of `takeLength`'s length error; `lengthFmt_eq` is the literal as the generated code carries it -/
def lengthFmt : Bytes := ascii "length %d exceeds the maximum message size %d"

theorem lengthFmt_eq : lengthFmt = [108, 101, 110, 103, 116, 104, 32, 37, 100, 32, 101, 120, 99, 101, 101, 100, 115, 32, 116, 104, 101, 32, 109, 97, 120, 105, 109, 117, 109, 32, 109, 101, 115, 115, 97, 103, 101, 32, 115, 105, 122, 101, 32, 37, 100] :=
  (ascii_ofList _).trans rfl

theorem decInt_nat (n : Nat) : decInt (n : Int) = decNat n := by
  have : ¬ ((n : Int) < 0) := by omega
  simp [decInt, this]

/-- the structured `fmt.Errorf` value of `takeLength` is the model's `errLengthExceeds` -/
theorem absErr_lengthExceeds (n L : Nat) :
    absErr (.errorf lengthFmt [(n : Int), (L : Int)]) = .lib (errLengthExceeds n L) := by
  rw [errLengthExceeds, lengthFmt, ascii_ofList, ascii_ofList, ascii_ofList]
  simp [absErr, fmtD, decInt_nat]

/-- `take(4)` failed: `takeLength` passes the error on (the `.err` line of `binTakeLength`) -/
theorem tie_takeLength_err (fuel : Nat) (w w' : CWorld) (v : Bytes) (e : CErr)
    (ht : TransCopy.BinaryCopyReader_take fuel 4 w = .ok (v, some e) w') :
    TransCopy.BinaryCopyReader_takeLength fuel w = .ok (0, some e) w' := by
  unfold TransCopy.BinaryCopyReader_takeLength
  rw [ht]
  rfl

theorem tie_takeLength_block (fuel : Nat) (w : CWorld)
    (ht : TransCopy.BinaryCopyReader_take fuel 4 w = .block) :
    TransCopy.BinaryCopyReader_takeLength fuel w = .block := by
  unfold TransCopy.BinaryCopyReader_takeLength
  rw [ht]
  rfl

/-- `skipHeader`: an error of `fill` other than `io.EOF` is returned (the `.err` line of `binSkipHeader`) -/
theorem tie_skipHeader_err (fuel : Nat) (w w1 : CWorld) (e : CErr)
    (hf : TransCopy.BinaryCopyReader_fill fuel (TransCopy.CopySignature.length : Int) w = .ok (some e) w1)
    (he : e ≠ .lib .eof) :
    TransCopy.BinaryCopyReader_skipHeader fuel w = .ok (some e) w1 := by
  unfold TransCopy.BinaryCopyReader_skipHeader
  rw [hf]
  have hc : (some e ≠ none) ∧ (some e ≠ some (CErr.lib Go.Err.eof)) := ⟨by simp, by simp [he]⟩
  simp only [COut.bind]
  rw [if_pos hc]

/-- `skipHeader`: the stream does not start with the signature (or is shorter): nothing is consumed
    (`binHeaderCheck`, first branch) -/
theorem tie_skipHeader_noSig (fuel : Nat) (w w1 : CWorld) (e : Option CErr)
    (hf : TransCopy.BinaryCopyReader_fill fuel (TransCopy.CopySignature.length : Int) w = .ok e w1)
    (he : e = none ∨ e = some (.lib .eof)) (hp : hasPrefix w1.bin.pending TransCopy.CopySignature = false) :
    TransCopy.BinaryCopyReader_skipHeader fuel w = .ok none w1 := by
  unfold TransCopy.BinaryCopyReader_skipHeader
  rw [hf]
  have hc : ¬ ((e ≠ none) ∧ (e ≠ some (CErr.lib Go.Err.eof))) := by
    rcases he with he | he <;> simp [he]
  have hq : ¬ (hasPrefix w1.bin.pending TransCopy.CopySignature = true) := by simp [hp]
  simp only [COut.bind]
  rw [if_neg hc, if_pos hq]

/-- the model's prefix test is `bytes.HasPrefix` -/
theorem hasPrefix_model (p : Bytes) :
    (hasPrefix p TransCopy.CopySignature = false) ↔ p.take copySignature.length ≠ copySignature := by
  have : TransCopy.CopySignature = copySignature := rfl
  simp [hasPrefix, this]

/-! ### concrete worlds: the hypotheses of the theorems above are satisfiable, and the translated code runs -/

/-- a fresh reader (limit 100) in front of `src`; one scanner that reports the length of its input -/
def exWorld (src : Bytes) (fin : Fin := .wait) : CWorld :=
  { base := { reader := { MaxMessageSize := 100 }, src := src, fin := fin },
    bin := { nscanners := 1 },
    scan := fun _ v => (.val v.length, none) }

theorem exWorld_ok (src : Bytes) (fin : Fin) : ReaderOK (exWorld src fin).base :=
  ⟨by simp [exWorld, Sl.WF], by simp [exWorld, Sl.NilOK], rfl, by simp [exWorld]⟩

/-- what a run returned: the error, `reader.Msg`, the rest of the stream, `pending` -/
def obs {α} : COut α → Option (α × Bytes × Bytes × Bytes)
  | .ok a w => some (a, w.base.reader.Msg.data, w.base.src, w.bin.pending)
  | _ => none

-- hypothesis of `tie_CopyRead_msg` / `readTyped_msg`
example : readItem (exWorld (frame 100 [1, 2, 3])).base.reader.MaxMessageSize.toNat (exWorld (frame 100 [1, 2, 3])).base.src
    = some (.msg 100 [1, 2, 3], []) := by decide +kernel
-- Sync, Flush, then CopyData: skipped, skipped, delivered
example : obs (TransCopy.CopyReader_Read 3 (exWorld (frame 83 [] ++ frame 72 [] ++ frame 100 [1, 2, 3] ++ [9])))
    = some (none, [1, 2, 3], [9], []) := by decide +kernel
-- CopyDone, CopyFail, an unknown type, an oversized message (its 200 declared bytes are skipped first)
example : obs (TransCopy.CopyReader_Read 1 (exWorld (frame 99 []))) = some (some (.lib .eof), [], [], []) := by decide +kernel
example : obs (TransCopy.CopyReader_Read 1 (exWorld (frame 102 [104, 105, 0])))
    = some (some (.copyFailed [104, 105]), [], [], []) := by decide +kernel
example : obs (TransCopy.CopyReader_Read 1 (exWorld (frame 81 [0]))) = some (some (.unimplemented 81), [0], [], []) := by decide +kernel
example : obs (TransCopy.CopyReader_Read 5 (exWorld (100 :: be32 204 ++ List.replicate 200 7 ++ [5])))
    = some (some (.lib (.sizeExceeded 100 200)), List.replicate 100 7, [5], []) := by decide +kernel
-- a silent stream blocks; a closed one is an unexpected EOF inside a message
example : obs (TransCopy.CopyReader_Read 1 (exWorld [100, 0, 0])) = none := by decide +kernel
example : obs (TransCopy.CopyReader_Read 1 (exWorld [100, 0, 0] .eof)) = some (some (.lib .unexpectedEOF), [], [], []) := by decide +kernel
-- take(2) over two CopyData messages: the value spans both, one byte stays pending
example : obs (TransCopy.BinaryCopyReader_take 5 2 (exWorld (frame 100 [1] ++ frame 100 [2, 3])))
    = some (([1, 2], none), [], [], [3]) := by decide +kernel
-- hypothesis of `tie_take_ok`
example : obs (TransCopy.BinaryCopyReader_fill 5 2 (exWorld (frame 100 [1] ++ frame 100 [2, 3])))
    = some (none, [], [], [1, 2, 3]) := by decide +kernel
-- a length above the limit is rejected, 0xFFFFFFFF is not
example : (obs (TransCopy.BinaryCopyReader_takeLength 5 (exWorld (frame 100 [0, 0, 0, 101])))).map (·.1)
    = some (0, some (.errorf lengthFmt [101, 100])) := by rw [lengthFmt, ascii_ofList]; decide +kernel
example : (obs (TransCopy.BinaryCopyReader_takeLength 5 (exWorld (frame 100 [255, 255, 255, 255])))).map (·.1)
    = some (4294967295, none) := by decide +kernel
-- a whole binary stream: header, one row with one 2-byte field, trailer, CopyDone
def exBinary : Bytes :=
  frame 100 (TransCopy.CopySignature ++ [0, 0, 0, 0] ++ [0, 0, 0, 0] ++ [0, 1] ++ [0, 0, 0, 2, 7, 8] ++ [255, 255]) ++ frame 99 []
example : (obs (TransCopy.BinaryCopyReader_Read 9 (exWorld exBinary))).map (·.1) = some ([.val 2], none) := by decide +kernel
example : (match TransCopy.BinaryCopyReader_Read 9 (exWorld exBinary) with
           | .ok _ w => (obs (TransCopy.BinaryCopyReader_Read 9 w)).map (·.1)
           | _ => none) = some ([], some (.lib .eof)) := by decide +kernel

end Pw.Tie
