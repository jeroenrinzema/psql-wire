import Pw.Generated.Trans
import Pw.Model.Reader
import Pw.Model.Heap
import Pw.Lemmas.Rt
import Pw.Lemmas.Bytes
/-
  The byte-level layer of the hand-written model is what the Go source says.  `Pw/Generated/Trans.lean` is regenerated
  from pkg/buffer on every check run by `go/translate` (semantics of the constructs in `Pw/Go/Rt.lean`); a tie theorem
  equates a translated function, for EVERY world, with the definition the model uses in its place, and so also says
  that the function cannot panic (every index and slice expression is in bounds: C04's obligation for this package,
  on the code itself).  Here: the accessors, `reset`, and the parts of framing.
-/
namespace Pw.Tie
open Pw.Go

/-! ### the translator handled everything it was asked to; struct layouts as mirrored in Rt.lean -/
example : Trans.untranslatable = [] := rfl
example : Trans.structReader = [("logger", "*slog.Logger"), ("Buffer", "BufferedReader"), ("Msg", "[]byte"),
    ("MaxMessageSize", "int"), ("header", "[4]byte")] := rfl
example : Trans.structWriter = [("", "io.Writer"), ("logger", "*slog.Logger"), ("frame", "bytes.Buffer"),
    ("putbuf", "[64]byte"), ("err", "error")] := rfl

/-! ### slices -/
/-- a slice as Go can hold it: `len ≤ cap`, and sizes are far below 2^63 (Go's `int`) -/
def Sl.WF (s : Sl) : Prop := s.data.length ≤ s.cap ∧ s.cap < 4611686018427387904
/-- `s[n:]` -/
def Sl.adv (n : Nat) (s : Sl) : Sl := { s with off := s.off + n, cap := s.cap - n, data := s.data.drop n }
/-- `s[:n]` -/
def Sl.front (n : Nat) (s : Sl) : Sl := { s with data := s.data.take n }
def setMsg (w : World) (m : Sl) : World := { w with reader := { w.reader with Msg := m } }

theorem sliceTo_ok (j) (s : Sl) (n : Nat) (hn : n ≤ s.data.length) (h : Sl.WF s) :
    Sl.sliceTo j s (n : Int) = .ok (Sl.front n s) := by
  unfold Sl.WF at h
  have h1 : ¬ (s.capI < (n : Int)) := by unfold Sl.capI; omega
  simp [Sl.sliceTo, Sl.slice, Sl.front, h1, hn]

theorem sliceFrom_ok (j) (s : Sl) (n : Nat) (hn : n ≤ s.data.length) (h : Sl.WF s) :
    Sl.sliceFrom j s (n : Int) = .ok (Sl.adv n s) := by
  unfold Sl.WF at h
  have h1 : ¬ (s.capI < (s.data.length : Int)) := by unfold Sl.capI; omega
  have h2 : ¬ ((s.data.length : Int) < (n : Int)) := by omega
  simp [Sl.sliceFrom, Sl.slice, Sl.adv, Sl.len, h1, h2]

theorem adv_wf (n : Nat) (s : Sl) (h : Sl.WF s) : Sl.WF (Sl.adv n s) := by
  unfold Sl.WF Sl.adv at *; simp; omega

/-- `v := Msg[:i]` inside a statement list, for `i = n` bytes that are there (`hi` is `rfl` for a literal) -/
theorem window_take {α} (n : Nat) (i : Int) (hi : i = n) (w : World) (h : Sl.WF w.reader.Msg)
    (hn : n ≤ w.reader.Msg.data.length) (K : Sl → Out α) :
    chk (Sl.sliceTo w.junk w.reader.Msg i) K = K (Sl.front n w.reader.Msg) := by
  rw [hi, sliceTo_ok _ _ _ hn h, chk_ok]

/-- `Msg = Msg[i:]` -/
theorem window_adv {α} (n : Nat) (i : Int) (hi : i = n) (w : World) (h : Sl.WF w.reader.Msg)
    (hn : n ≤ w.reader.Msg.data.length) (K : Sl → Out α) :
    chk (Sl.sliceFrom w.junk w.reader.Msg i) K = K (Sl.adv n w.reader.Msg) := by
  rw [hi, sliceFrom_ok _ _ _ hn h, chk_ok]

/-! ### accessors (values and layout) -/

theorem tie_GetBytes (n : Nat) (w : World) (h : Sl.WF w.reader.Msg) :
    Trans.Reader_GetBytes (n : Int) w =
      match getBytes n w.reader.Msg.data with
      | some (v, _) => .ok ({ w.reader.Msg with data := v }, none) (setMsg w (Sl.adv n w.reader.Msg))
      | none => .ok ({}, some (.insufficient w.reader.Msg.len)) w := by
  unfold Trans.Reader_GetBytes getBytes
  by_cases hl : w.reader.Msg.data.length < n
  · rw [if_pos (by unfold Sl.len; omega), if_pos hl]
  · have hn : n ≤ w.reader.Msg.data.length := by omega
    rw [if_neg (by unfold Sl.len; omega), if_neg hl, window_take n n rfl w h hn, window_adv n n rfl w h hn]
    rfl

theorem tie_GetUint16 (w : World) (h : Sl.WF w.reader.Msg) :
    Trans.Reader_GetUint16 w =
      match getU16 w.reader.Msg.data with
      | some (v, _) => .ok ((v : Int), none) (setMsg w (Sl.adv 2 w.reader.Msg))
      | none => .ok (0, some (.insufficient w.reader.Msg.len)) w := by
  unfold Trans.Reader_GetUint16 getU16
  rcases hd : w.reader.Msg.data with _ | ⟨a, _ | ⟨b, r⟩⟩
  · simp [Sl.len, hd, rd16]
  · simp [Sl.len, hd, rd16]
  · have hn : 2 ≤ w.reader.Msg.data.length := by simp [hd]
    rw [if_neg (by unfold Sl.len; omega), window_take 2 2 rfl w h hn]
    simp only [Sl.front, hd, List.take, beUint16_cons, chk_ok]
    rw [window_adv 2 2 rfl w h hn]
    rfl

theorem tie_GetUint32 (w : World) (h : Sl.WF w.reader.Msg) :
    Trans.Reader_GetUint32 w =
      match getU32 w.reader.Msg.data with
      | some (v, _) => .ok ((v : Int), none) (setMsg w (Sl.adv 4 w.reader.Msg))
      | none => .ok (0, some (.insufficient w.reader.Msg.len)) w := by
  unfold Trans.Reader_GetUint32 getU32
  cases hr : rd32 w.reader.Msg.data with
  | none =>
    have := rd32_none.mp hr
    rw [if_pos (by unfold Sl.len; omega)]
  | some p =>
    obtain ⟨a, b, c, d, hd, hv⟩ := rd32_some.mp hr
    have hn : 4 ≤ w.reader.Msg.data.length := by rw [hd]; simp
    rw [if_neg (by unfold Sl.len; omega), window_take 4 4 rfl w h hn]
    simp only [Sl.front, hd, List.take, beUint32_cons, chk_ok]
    rw [window_adv 4 4 rfl w h (by rw [hd]; simp), hv]
    rfl

/-- `bytes.IndexByte(m, 0)` is where the model's `cstr` splits -/
theorem indexByte_cstr (m : Bytes) :
    indexByte m 0 = match cstr m with
      | some (s, _) => (s.length : Int)
      | none => -1 := by
  induction m with
  | nil => rfl
  | cons b t ih =>
    unfold indexByte cstr
    by_cases hb : b = 0
    · rw [if_pos hb, if_pos hb]; rfl
    · rw [if_neg hb, if_neg hb, ih]
      cases cstr t with
      | none => rfl
      | some p => simp only [List.length_cons]; rw [if_neg (by omega)]; omega

theorem cstr_take_drop {m s r : Bytes} (h : cstr m = some (s, r)) :
    s.length < m.length ∧ s = m.take s.length ∧ r = m.drop (s.length + 1) := by
  have := cstr_sound m s r h
  subst this
  simp

theorem cstr_length {m s r : Bytes} (h : cstr m = some (s, r)) : m.length = s.length + 1 + r.length := by
  have := cstr_sound m s r h
  subst this
  simp; omega

theorem tie_GetString (w : World) (h : Sl.WF w.reader.Msg) :
    Trans.Reader_GetString w =
      match getString w.reader.Msg.data with
      | some (s, _) => .ok (s, none) (setMsg w (Sl.adv (s.length + 1) w.reader.Msg))
      | none => .ok ([], some .missingNul) w := by
  unfold Trans.Reader_GetString getString
  generalize hp : indexByte w.reader.Msg.data 0 = pos
  rw [indexByte_cstr] at hp
  cases hs : cstr w.reader.Msg.data with
  | none =>
    rw [hs] at hp
    rw [if_pos hp.symm]
  | some p =>
    obtain ⟨s, r⟩ := p
    rw [hs] at hp
    obtain rfl : (s.length : Int) = pos := hp
    obtain ⟨h1, h2, _⟩ := cstr_take_drop hs
    have hlen := h.1
    have hcap := h.2
    rw [if_neg (by omega), window_take s.length _ rfl w h (by omega), i64_id _ (by omega) (by omega),
      window_adv (s.length + 1) _ (by omega) w h (by omega)]
    simp only [Sl.front, ← h2]
    rfl

/-- the world with the window moved on over `n` bytes: what every accessor leaves -/
def su_adv (n : Nat) (w : World) : World := setMsg w (Sl.adv n w.reader.Msg)

theorem su_adv_data (n : Nat) (w : World) : (su_adv n w).reader.Msg.data = w.reader.Msg.data.drop n := rfl
theorem su_adv_wf (n : Nat) (w : World) (h : Sl.WF w.reader.Msg) : Sl.WF (su_adv n w).reader.Msg := adv_wf n _ h
theorem su_adv_zero (w : World) : su_adv 0 w = w := rfl
theorem su_adv_adv (a b : Nat) (w : World) : su_adv b (su_adv a w) = su_adv (a + b) w := by
  simp only [su_adv, setMsg, Sl.adv, List.drop_drop, Nat.add_assoc, Nat.sub_sub]
theorem su_adv_frame (n : Nat) (w : World) :
    (su_adv n w).src = w.src ∧ (su_adv n w).fin = w.fin ∧ (su_adv n w).writer = w.writer ∧
    (su_adv n w).sink = w.sink ∧ (su_adv n w).wleft = w.wleft ∧ (su_adv n w).nArenas = w.nArenas ∧
    (su_adv n w).allocs = w.allocs ∧ (su_adv n w).reader.MaxMessageSize = w.reader.MaxMessageSize ∧
    (su_adv n w).reader.header = w.reader.header :=
  ⟨rfl, rfl, rfl, rfl, rfl, rfl, rfl, rfl, rfl⟩

/-- `GetString` by the verdict of `cstr` on the window -/
theorem tie_GetString_some (w : World) (h : Sl.WF w.reader.Msg) (s r : Bytes)
    (hc : cstr w.reader.Msg.data = some (s, r)) :
    Trans.Reader_GetString w = .ok (s, none) (su_adv (s.length + 1) w) := by
  rw [tie_GetString w h]; unfold getString; rw [hc]; rfl

theorem tie_GetString_none (w : World) (h : Sl.WF w.reader.Msg) (hc : cstr w.reader.Msg.data = none) :
    Trans.Reader_GetString w = .ok ([], some .missingNul) w := by
  rw [tie_GetString w h]; unfold getString; rw [hc]

theorem tie_GetPrepareType (w : World) (h : Sl.WF w.reader.Msg) :
    Trans.Reader_GetPrepareType w =
      match w.reader.Msg.data with
      | b :: _ => .ok (b, none) (setMsg w (Sl.adv 1 w.reader.Msg))
      | [] => .ok (0, some (.insufficient 0)) w := by
  unfold Trans.Reader_GetPrepareType
  -- the code's literal `(1 : Int)` is the lemma's `((1 : Nat) : Int)` only up to reduction, which `rw` does not see:
  -- the equation is re-typed first
  have e : Trans.Reader_GetBytes 1 w = _ := tie_GetBytes 1 w h
  rw [e]
  rcases hd : w.reader.Msg.data with _ | ⟨b, r⟩
  · simp [getBytes, Out.bind, Sl.len, hd]
  · simp [getBytes, Out.bind, chk, Sl.index, Sl.len]

/-! ### reset: the layout of `reader.Msg` (Heap model, C18) -/

def Sl.NilOK (s : Sl) : Prop := s.nil = true → s.cap = 0 ∧ s.data = []

theorem adv_nilok (n : Nat) (s : Sl) (h : Sl.NilOK s) : Sl.NilOK (Sl.adv n s) := by
  unfold Sl.NilOK Sl.adv at *
  intro hn
  obtain ⟨hc, hd⟩ := h hn
  simp [hc, hd]

def absWin (s : Sl) : Option Heap.Win :=
  if s.nil then none else some { arena := s.arena, off := s.off, len := s.data.length, cap := s.cap }

def absHeap (w : World) (views : List Heap.Region) : Heap.St :=
  { nArenas := w.nArenas, cur := absWin w.reader.Msg, views := views, allocs := w.allocs }

def resetSpec (size : Nat) (w : World) : World :=
  let m := w.reader.Msg
  let m1 : Sl := if m.nil then m else Sl.adv m.data.length m
  if m1.cap ≥ size then setMsg w { m1 with data := junkBytes w.junk m1.arena m1.off size }
  else
    let alloc := if size < 4096 then 4096 else size
    { setMsg w { nil := false, arena := w.nArenas, off := 0, cap := alloc, data := List.replicate size 0 } with
      nArenas := w.nArenas + 1, allocs := alloc :: w.allocs }

theorem junkBytes_length (j a f n) : (junkBytes j a f n).length = n := by simp [junkBytes]

theorem makeBytes_ok (size cap_ : Nat) (hc : size ≤ cap_) (w : World) :
    makeBytes (size : Int) (cap_ : Int) w =
      .ok { nil := false, arena := w.nArenas, off := 0, cap := cap_, data := List.replicate size 0 }
          { w with nArenas := w.nArenas + 1, allocs := cap_ :: w.allocs } := by
  simp [makeBytes, hc]

/-- `s[:n]` of an EMPTY window with room: `n` bytes of memory whose contents are not tracked -/
theorem sliceTo_grow (j) (s : Sl) (n : Nat) (hd : s.data = []) (hn : n ≤ s.cap) :
    Sl.sliceTo j s (n : Int) = .ok { s with data := junkBytes j s.arena s.off n } := by
  unfold Sl.sliceTo Sl.slice
  rw [if_neg (by unfold Sl.capI; omega)]
  by_cases h0 : n = 0
  · subst h0; simp [hd, junkBytes]
  · simp [hd, h0]

/-- what the second half of `reset` leaves (the first half has emptied the window): the window grown in place,
    or a fresh arena -/
def resetTailSpec (size : Nat) (w : World) : World :=
  if w.reader.Msg.cap ≥ size then
    setMsg w { w.reader.Msg with data := junkBytes w.junk w.reader.Msg.arena w.reader.Msg.off size }
  else
    { setMsg w { nil := false, arena := w.nArenas, off := 0, cap := if size < 4096 then 4096 else size,
                 data := List.replicate size 0 } with
      nArenas := w.nArenas + 1, allocs := (if size < 4096 then 4096 else size) :: w.allocs }

theorem resetSpec_eq (size : Nat) (w : World) :
    resetSpec size w = resetTailSpec size
      (setMsg w (if w.reader.Msg.nil = true then w.reader.Msg else Sl.adv w.reader.Msg.data.length w.reader.Msg)) := rfl

/-- the second half of `reset`, which the translation repeats in both branches of `if Msg != nil` -/
theorem reset_tail (size : Nat) (w : World) (hd : w.reader.Msg.data = []) :
    (if w.reader.Msg.capI ≥ (size : Int) then
        chk (Sl.sliceTo w.junk w.reader.Msg size) fun t => Out.ok () { w with reader := { w.reader with Msg := t } }
      else if (size : Int) < 4096 then
        (makeBytes size 4096 w).bind fun t w => .ok () { w with reader := { w.reader with Msg := t } }
      else
        (makeBytes size size w).bind fun t w => .ok () { w with reader := { w.reader with Msg := t } }) =
    .ok () (resetTailSpec size w) := by
  unfold resetTailSpec
  by_cases hc : w.reader.Msg.cap ≥ size
  · rw [if_pos (by unfold Sl.capI; omega), if_pos hc, sliceTo_grow _ _ _ hd hc]; rfl
  · rw [if_neg (by unfold Sl.capI; omega), if_neg hc]
    by_cases h4 : size < 4096
    · -- re-typed for `rw`: the code has `(4096 : Int)`, the lemma `((4096 : Nat) : Int)`
      have e : makeBytes (size : Int) 4096 w = _ := makeBytes_ok size 4096 (by omega) w
      rw [if_pos (by omega), if_pos h4, e]; rfl
    · rw [if_neg (by omega), if_neg h4, makeBytes_ok size size (Nat.le_refl _) w]; rfl

theorem tie_reset (size : Nat) (w : World) (h : Sl.WF w.reader.Msg) (hn : Sl.NilOK w.reader.Msg) :
    Trans.Reader_reset (size : Int) w = .ok () (resetSpec size w) := by
  unfold Trans.Reader_reset
  by_cases hnil : w.reader.Msg.nil = true
  · rw [if_neg (by rw [hnil]; decide), resetSpec_eq, if_pos hnil]
    exact reset_tail size w (hn hnil).2
  · have hnil' : w.reader.Msg.nil = false := by simpa using hnil
    -- re-typed for `rw`: the code has `Msg.len`, the lemma its unfolding, the cast of `data.length`
    have e1 : Sl.sliceFrom w.junk w.reader.Msg w.reader.Msg.len = .ok (Sl.adv w.reader.Msg.data.length w.reader.Msg) :=
      sliceFrom_ok w.junk w.reader.Msg w.reader.Msg.data.length (Nat.le_refl _) h
    rw [if_pos hnil', e1, chk_ok, resetSpec_eq, if_neg hnil]
    exact reset_tail size (setMsg w (Sl.adv w.reader.Msg.data.length w.reader.Msg)) (by simp [setMsg, Sl.adv])

/-- `reset` refines the heap model's `reset`; the new window is well-formed and `size` long -/
theorem resetSpec_heap (size : Nat) (w : World) (views) (h : Sl.WF w.reader.Msg) (hn : Sl.NilOK w.reader.Msg)
    (hs : size < 4611686018427387904) :
    absHeap (resetSpec size w) views = Heap.reset size (absHeap w views) ∧
    Sl.WF (resetSpec size w).reader.Msg ∧ Sl.NilOK (resetSpec size w).reader.Msg ∧
    (resetSpec size w).reader.Msg.data.length = size := by
  -- the two definitions take the same decisions (nil window or not, room or not, 4096 or `size`): in each case
  -- both sides are unfolded and compared field by field
  unfold resetSpec Heap.reset absHeap absWin Sl.WF Sl.NilOK at *
  by_cases hnil : w.reader.Msg.nil = true
  · obtain ⟨hc, hd⟩ := hn hnil
    by_cases hsz : size = 0
    · subst hsz; simp [hnil, hc, setMsg, junkBytes]
    · have h2 : ¬ (w.reader.Msg.cap ≥ size) := by omega
      by_cases h4 : size < 4096 <;> simp [hnil, hc, setMsg, Heap.granule, hsz, h4] <;> omega
  · have hnil' : w.reader.Msg.nil = false := by simpa using hnil
    simp only [hnil', Bool.false_eq_true, if_false, Option.map_some, Sl.adv]
    by_cases hcap : w.reader.Msg.cap - w.reader.Msg.data.length ≥ size
    · simp [hcap, setMsg, junkBytes_length]
      omega
    · by_cases h4 : size < 4096 <;> simp [hcap, setMsg, Heap.granule, h4] <;> omega

/-- `reset` touches nothing but the window and the allocator -/
theorem resetSpec_frame (size : Nat) (w : World) :
    (resetSpec size w).src = w.src ∧ (resetSpec size w).fin = w.fin ∧ (resetSpec size w).writer = w.writer ∧
    (resetSpec size w).sink = w.sink ∧ (resetSpec size w).wleft = w.wleft ∧ (resetSpec size w).junk = w.junk ∧
    (resetSpec size w).reader.MaxMessageSize = w.reader.MaxMessageSize ∧
    (resetSpec size w).reader.header = w.reader.header := by
  rw [resetSpec_eq]
  unfold resetTailSpec
  generalize (if w.reader.Msg.nil = true then w.reader.Msg else Sl.adv w.reader.Msg.data.length w.reader.Msg) = m
  split
  · exact ⟨rfl, rfl, rfl, rfl, rfl, rfl, rfl, rfl⟩
  · exact ⟨rfl, rfl, rfl, rfl, rfl, rfl, rfl, rfl⟩

/-- the accessors move the window exactly as `Heap.take` does -/
theorem adv_heap (n extra : Nat) (w : World) (views) (hnil : w.reader.Msg.nil = false)
    (hle : n + extra ≤ w.reader.Msg.data.length) :
    (Heap.take n extra (absHeap w views)).cur = absWin (Sl.adv (n + extra) w.reader.Msg) := by
  simp [Heap.take, absHeap, absWin, hnil, Sl.adv, hle]

/-! ### framing, the parts: ReadType, ReadMsgSize, `io.ReadFull` into the window -/

/-- the invariant of a `buffer.Reader` between calls -/
structure ReaderOK (w : World) : Prop where
  wf : Sl.WF w.reader.Msg
  nilok : Sl.NilOK w.reader.Msg
  hdr : w.reader.header.length = 4
  max : 0 ≤ w.reader.MaxMessageSize ∧ w.reader.MaxMessageSize < 4611686018427387904

theorem ReaderOK.src {w : World} (ok : ReaderOK w) (s : Bytes) : ReaderOK { w with src := s } :=
  ⟨ok.wf, ok.nilok, ok.hdr, ok.max⟩

theorem tie_ReadType (w : World) :
    Trans.Reader_ReadType w =
      match w.src with
      | b :: r => .ok (b, none) { w with src := r }
      | [] => match w.fin with
        | .wait => .block
        | .rerr => .ok (0, some .readErr) w
        | .eof => .ok (0, some .eof) w := by
  unfold Trans.Reader_ReadType readByte
  rcases hs : w.src with _ | ⟨b, r⟩
  · cases hf : w.fin <;> simp [Out.bind]
  · simp [Out.bind]

def setHeader (w : World) (h : Bytes) : World := { w with reader := { w.reader with header := h } }

/-- the 32-bit big-endian value of a length header -/
abbrev declaredOf (a b c d : UInt8) : Nat := be32val a b c d

theorem declaredOf_lt (a b c d : UInt8) : declaredOf a b c d < 4294967296 := be32val_lt a b c d

theorem sizeVerdict_ok {L dcl n : Nat} (h : sizeVerdict L dcl = .ok n) : (dcl : Int) - 4 = (n : Int) ∧ n ≤ L := by
  unfold sizeVerdict at h
  simp only at h
  split at h
  · cases h
  · injection h with h; omega

theorem sizeVerdict_exceeded {L dcl : Nat} {size : Int} (h : sizeVerdict L dcl = .exceeded size) :
    (dcl : Int) - 4 = size ∧ (size > (L : Int) ∨ size < 0) := by
  unfold sizeVerdict at h
  simp only at h
  split at h
  · injection h with h; omega
  · cases h

theorem tie_ReadMsgSize_full (w : World) (a b c d : UInt8) (r : Bytes) (hh : w.reader.header.length = 4)
    (hs : w.src = a :: b :: c :: d :: r) :
    Trans.Reader_ReadMsgSize w =
      .ok (((declaredOf a b c d : Nat) : Int) - 4, none) (setHeader { w with src := r } [a, b, c, d]) := by
  unfold Trans.Reader_ReadMsgSize
  rw [ioReadFullArr_enough _ _ (by rw [hh, hs]; simp), Out.ok_bind, hh, hs]
  have hdl := declaredOf_lt a b c d
  have hi : i64 (i64 ((declaredOf a b c d : Nat) : Int) - 4) = ((declaredOf a b c d : Nat) : Int) - 4 := by
    rw [i64_id ((declaredOf a b c d : Nat) : Int) (by omega) (by omega), i64_id _ (by omega) (by omega)]
  simp only [ne_eq, not_true_eq_false, if_false, List.take, beUint32_cons, chk_ok, hi]
  rfl

theorem tie_ReadMsgSize_short (w : World) (hh : w.reader.header.length = 4) (hs : w.src.length < 4) :
    Trans.Reader_ReadMsgSize w =
      match w.fin with
      | .wait => .block
      | .rerr => .ok ((w.src.length : Int), some .readErr)
          (setHeader { w with src := [] } (w.src ++ w.reader.header.drop w.src.length))
      | .eof => .ok ((w.src.length : Int), some (if w.src = [] then .eof else .unexpectedEOF))
          (setHeader { w with src := [] } (w.src ++ w.reader.header.drop w.src.length)) := by
  unfold Trans.Reader_ReadMsgSize
  rw [ioReadFullArr_short _ _ (by rw [hh]; exact hs)]
  cases w.fin <;> rfl

theorem ioReadFullSl_enough (p : Sl) (w : World) (hn : p.data.length ≤ w.src.length) :
    ioReadFullSl p w =
      .ok ({ p with data := w.src.take p.data.length }, (p.data.length : Int), none)
          { w with src := w.src.drop p.data.length } := by
  unfold ioReadFullSl
  rw [ioReadFull_enough _ _ hn, Out.ok_bind]
  simp [List.length_take, Nat.min_eq_left hn]

/-- a read into the window never panics; short input blocks or yields an error with the window kept in shape -/
theorem ioReadFullSl_short (p : Sl) (w : World) (hn : ¬ p.data.length ≤ w.src.length) :
    ioReadFullSl p w =
      match w.fin with
      | .wait => .block
      | .rerr => .ok ({ p with data := w.src ++ p.data.drop w.src.length }, (w.src.length : Int), some .readErr)
          { w with src := [] }
      | .eof => .ok ({ p with data := w.src ++ p.data.drop w.src.length }, (w.src.length : Int),
          some (if w.src = [] then .eof else .unexpectedEOF)) { w with src := [] } := by
  unfold ioReadFullSl
  rw [ioReadFull_short _ _ (by omega)]
  cases w.fin <;> rfl

end Pw.Tie
