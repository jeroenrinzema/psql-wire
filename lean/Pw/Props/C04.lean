import Pw.Lemmas.Serve
import Pw.Props.C08
import Pw.Props.C14
import Pw.Props.C18
import Pw.Props.C20
/-
  C04 — no client input can crash, wedge or balloon the server.  For EVERY configuration, EVERY
  handler program and EVERY input the model of `Server.serve` never ends in the `crashed` state (an
  unrecovered panic of the connection goroutine); every iteration of the command loop consumes
  input, so the loop cannot spin; and once the input has ended the connection is released.
-/
namespace Pw.Props.C04

/-! ### encoding with the text-only format list of the simple query path never panics -/

theorem encodeVal_no_panic (o fmt : Nat) (v : Val) (hf : fmt = 0 ∨ fmt = 1) (f : Nat) :
    encodeVal o fmt v ≠ .panic f := by
  fun_cases encodeVal o fmt v
  case case1 => nofun                                   -- untyped nil
  case case2 => omega                                   -- the plan array is indexed with 0 or 1
  case case3 => nofun                                   -- unsupported type
  case case4 => fun_cases encodeTyped o fmt v <;> nofun  -- no typed encoder has a panicking branch

theorem encodeRow_no_panic (formats : List Nat) (hfm : ∀ i, formatFor formats i = 0 ∨ formatFor formats i = 1) :
    ∀ (cols : List ColDesc) (vals : List Val) (i f : Nat), encodeRow formats i cols vals ≠ .panic f := by
  intro cols vals i f
  fun_induction encodeRow formats i cols vals with
  | case1 => nofun                                      -- no column left
  | case2 => nofun
  | case3 => nofun                                      -- encode error
  | case4 i c cs v vs g he => exact absurd he (encodeVal_no_panic _ _ _ (hfm i) g)
  | case5 => nofun                                      -- unsupported
  | case6 => nofun                                      -- all fields encoded
  | case7 i c cs v vs x he hne ih => exact ih           -- whatever the rest of the row gave

/-- format codes that cannot make pgx panic -/
def SafeFormats (formats : List Nat) : Prop := ∀ i, formatFor formats i = 0 ∨ formatFor formats i = 1

theorem safe_nil : SafeFormats [] := by intro i; left; simp [formatFor]

theorem dwRow_no_panic (d : DW) (s : Sess) (vals : List Val) (hs : SafeFormats d.formats) (msg : Bytes) (d' : DW) (s' : Sess) :
    dwRow d s vals ≠ (.panic msg, d', s') :=
  dwRow_cases (P := (· ≠ _)) d s vals (fun _ _ _ _ => by simp)
    (fun f _ he => absurd he (encodeRow_no_panic _ hs _ _ _ _)) (fun _ _ _ _ _ => by simp)

theorem dwRow_formats {d d' : DW} {s s' : Sess} {vals : List Val} {x : RowOut}
    (h : dwRow d s vals = (x, d', s')) : d'.formats = d.formats := by
  have := dwRow_cases (P := fun r => r.2.1.formats = d.formats) d s vals
    (fun _ _ _ _ => rfl) (fun _ _ _ => rfl) (fun _ _ _ _ _ => rfl)
  rwa [h] at this

theorem dwComplete_formats {d d' : DW} {s s' : Sess} {tag : Bytes} {r : Option OpErr}
    (h : dwComplete d s tag = (r, d', s')) : d'.formats = d.formats := by
  have := dwComplete_cases (P := fun r => r.2.1.formats = d.formats) d s tag
    (fun _ => rfl) (fun _ => rfl) (fun _ _ _ => rfl)
  rwa [h] at this

theorem dwEmpty_formats {d d' : DW} {r : Option OpErr} (h : dwEmpty d = (r, d')) : d'.formats = d.formats := by
  have := dwEmpty_cases (P := fun r => r.2.formats = d.formats) d (fun _ _ => rfl) (fun _ _ => rfl)
  rwa [h] at this

theorem dwCopyIn_formats {d d' : DW} {s s' : Sess} {fmt : Nat} {r : Option OpErr}
    (h : dwCopyIn d s fmt = (r, d', s')) : d'.formats = d.formats := by
  have := dwCopyIn_cases (P := fun r => r.2.1.formats = d.formats) d s fmt (fun _ _ => rfl) (fun _ _ _ _ => rfl)
  rwa [h] at this

/-- **no panic without hostile format codes**: with format codes in {0,1} — in particular on the
    whole simple-query path, whose writer is created with no format codes — no handler program
    can make the result writer panic -/
theorem runProg_no_panic : ∀ (p : Prog) (d : DW) (s : Sess), SafeFormats d.formats →
    ∀ msg, (runProg p d s).1 ≠ .panicked msg := by
  intro p d s hs msg
  -- no operation changes the writer's format codes, and only `Row` can panic
  fun_induction runProg p d s with
  | case1 => simp                                                                                      -- ret
  | case3 vals k d s m d' s' hrow => exact absurd hrow (dwRow_no_panic d s vals hs m d' s')            -- row, panic
  | case4 vals k d s r d' s' hrow ih => exact ih (by rw [dwRow_formats hrow]; exact hs)                -- row
  | case5 tag k d s r d' s' hcomplete ih => exact ih (by rw [dwComplete_formats hcomplete]; exact hs)  -- complete
  | case6 k d s r d' hempty ih => exact ih (by rw [dwEmpty_formats hempty]; exact hs)                  -- empty
  | case8 fmt k d s r d' s' hcopyIn ih => exact ih (by rw [dwCopyIn_formats hcopyIn]; exact hs)        -- copyIn
  | case10 => simp                                      -- copyRead, blocked
  | case15 => simp                                      -- binRead, blocked
  | case2 n k d s ih => exact ih hs                     -- note
  | case7 k d s ih => exact ih hs                       -- written
  | case9 k d s hcopy ih => exact ih hs                 -- copyRead, no reader
  | case11 k d s hcopy r i hread ih => exact ih hs      -- copyRead
  | case12 k d s hcopy ih => exact ih hs                -- binNew, no reader
  | case13 k d s hcopy s1 ih => exact ih hs             -- binNew
  | case14 k d s hbin ih => exact ih hs                 -- binRead, no reader
  | case16 k d s b hbin r b' i hread ih => exact ih hs  -- binRead

/-! ### one command: it only consumes input, blocks only on a waiting stream, and does not crash

  `Tail.wait` is a client that is merely silent; `Tail.rerr` / `Tail.eof _` is a transport that
  fails reads, or a client that has closed its side, after the last available byte. -/

def Safe (st : Step) : Prop := ∀ s, st ≠ .stop s .crashed

/-- what handling one command may do, seen from the input `i` it started with -/
structure StepOk (i : Inp) (st : Step) : Prop where
  /-- it goes on having only consumed -/
  cont : ∀ s', st = .cont s' → InpLe i s'.inp
  /-- it stops in `waiting` only on a waiting stream -/
  waiting : ∀ s', st = .stop s' .waiting → i.tail = .wait
  safe : Safe st

theorem stop_ok (i : Inp) (s : Sess) : StepOk i (.stop s .closed) :=
  ⟨fun _ he => Step.noConfusion he, fun _ he => (by cases he), fun _ he => (by cases he)⟩

theorem waiting_ok {i : Inp} (s : Sess) (h : i.tail = .wait) : StepOk i (.stop s .waiting) :=
  ⟨fun _ he => Step.noConfusion he, fun _ _ => h, fun _ he => (by cases he)⟩

theorem cont_ok {i : Inp} {s : Sess} (h : InpLe i s.inp) : StepOk i (.cont s) :=
  ⟨fun s' he => (by cases he; exact h), fun _ he => Step.noConfusion he, fun _ he => Step.noConfusion he⟩

theorem StepOk.mono {i j : Inp} {st : Step} (hs : StepOk j st) (h : InpLe i j) : StepOk i st :=
  ⟨fun s' he => h.trans (hs.cont s' he),
   fun s' he => Classical.byContradiction fun hne => h.ended hne (hs.waiting s' he), hs.safe⟩

theorem afterWrite_ok {i : Inp} {s : Sess} (m : BMsg) (h : InpLe i s.inp) : StepOk i (afterWrite (s.send m)) := by
  rcases hs : s.send m with ⟨s1, ok⟩
  cases ok with
  | true => exact cont_ok (by rw [send_inp hs]; exact h)
  | false => exact stop_ok i s1

theorem errorCode_ok {i : Inp} {s : Sess} (e : Option Err) (h : InpLe i s.inp) : StepOk i (errorCode s e) := by
  unfold errorCode
  split
  · exact stop_ok _ _
  · rename_i s1 hs
    exact afterWrite_ok _ (by rw [send_inp hs]; exact h)

theorem extendedError_ok {i : Inp} {s : Sess} (e : Option Err) (h : InpLe i s.inp) : StepOk i (extendedError s e) :=
  afterWrite_ok _ h

theorem describeCols_ok {i : Inp} {s : Sess} (f : List Nat) (cols : List ColDesc) (h : InpLe i s.inp) :
    StepOk i (afterWrite (describeCols s f cols)) := by
  unfold describeCols
  split
  · exact afterWrite_ok _ h
  · exact afterWrite_ok _ h

theorem InpLe.setMsg (s : Sess) (m : Bytes) : InpLe s.inp (s.setMsg m).inp := InpLe.msg _ _

theorem blocked_ok {i : Inp} {p : Prog} {d : DW} {s s' : Sess} (hr : runProg p d s = (.blocked, s'))
    (h : InpLe i s.inp) : StepOk i (.stop s' .waiting) :=
  waiting_ok s' (Classical.byContradiction fun hne => (runProg_progress p d s).2 (h.ended hne) (by rw [hr]))

theorem ran_inp {i : Inp} {p : Prog} {d : DW} {s s' : Sess} {o : Outcome} (hr : runProg p d s = (o, s'))
    (h : InpLe i s.inp) : InpLe i s'.inp := by
  have := (runProg_progress p d s).1
  rw [hr] at this
  exact h.trans this

/-- the optional RowDescription in front of a statement -/
theorem defined_inp {st : Stmt} {s s1 : Sess} {ok : Bool}
    (h : (if st.cols.length = 0 then (s, true) else s.send (.rowDesc (colFormats [] st.cols))) = (s1, ok)) :
    InpLe s.inp s1.inp := by
  split at h
  · cases h; exact InpLe.refl _
  · rw [send_inp h]; exact InpLe.refl _

theorem runStatements_ok (sts : List Stmt) (s : Sess) : StepOk s.inp (runStatements sts s) := by
  fun_induction runStatements sts s with
  | case1 s => exact afterWrite_ok _ (InpLe.refl _)                                  -- no statement left
  | case2 st rest s defined sDesc hdesc => exact errorCode_ok _ (defined_inp hdesc)  -- RowDescription not written
  | case3 st rest s defined sDesc hdesc sExec sRan hrun =>                           -- blocked
    exact blocked_ok hrun (defined_inp hdesc : InpLe s.inp sDesc.inp)
  | case4 st rest s defined sDesc hdesc sExec msg sRan hrun =>
    -- a panic here would not be recovered; the writer of this path has no format codes
    exact absurd (by rw [hrun]) (runProg_no_panic _ _ sExec safe_nil msg)
  | case5 st rest s defined sDesc hdesc sExec e sRan hrun =>                         -- statement error
    exact errorCode_ok _ (ran_inp hrun (defined_inp hdesc : InpLe s.inp sDesc.inp))
  | case6 st rest s defined sDesc hdesc sExec sRan hrun ih =>                        -- on to the rest
    exact ih.mono (ran_inp hrun (defined_inp hdesc : InpLe s.inp sDesc.inp))

theorem handleSimpleQuery_ok (h : Handlers) (s : Sess) : StepOk s.inp (handleSimpleQuery h s) :=
  handleSimpleQuery_cases (P := StepOk s.inp) h s
    (stop := fun _ => stop_ok _ _)
    (blank := fun _ _ hs => afterWrite_ok _ (by rw [send_inp hs]; exact InpLe.msg _ _))
    (parseError := fun _ _ _ => errorCode_ok _ (InpLe.msg _ _))
    (noStatement := fun _ _ _ => errorCode_ok _ (InpLe.msg _ _))
    (statements := fun _ _ _ _ => (runStatements_ok _ _).mono (InpLe.msg _ _))

theorem handleParse_ok (h : Handlers) (s : Sess) : StepOk s.inp (handleParse h s) :=
  handleParse_cases (P := StepOk s.inp) h s
    (stop := fun _ => stop_ok _ _)
    (parseError := fun _ _ _ _ => extendedError_ok _ (InpLe.msg _ _))
    (noStatement := fun _ _ _ _ => extendedError_ok _ (InpLe.msg _ _))
    (stored := fun _ _ _ _ => afterWrite_ok _ (InpLe.msg _ _))           -- ParseComplete
    (several := fun _ _ _ _ _ _ => extendedError_ok _ (InpLe.msg _ _))

theorem handleDescribe_ok (s : Sess) : StepOk s.inp (handleDescribe s) :=
  handleDescribe_cases (P := StepOk s.inp) s
    (stop := fun _ => stop_ok _ _)
    (unknownStatement := fun _ _ _ => extendedError_ok _ (InpLe.msg _ _))
    (statement := fun _ _ _ hs => describeCols_ok _ _ (by rw [send_inp hs]; exact InpLe.msg _ _))
    (unknownPortal := fun _ _ _ => extendedError_ok _ (InpLe.msg _ _))
    (portal := fun _ _ _ => describeCols_ok _ _ (InpLe.msg _ _))
    (unknownKind := fun _ _ _ _ => extendedError_ok _ (InpLe.msg _ _))

theorem handleBind_ok (s : Sess) : StepOk s.inp (handleBind s) :=
  handleBind_cases (P := StepOk s.inp) s
    (stop := fun _ => stop_ok _ _)
    (unknownStatement := fun _ _ _ _ => extendedError_ok _ (InpLe.msg _ _))
    (bound := fun _ _ _ _ => afterWrite_ok _ (InpLe.msg _ _))

theorem handleClose_ok (s : Sess) : StepOk s.inp (handleClose s) :=
  handleClose_cases (P := StepOk s.inp) s
    (stop := fun _ => stop_ok _ _)
    (statement := fun _ _ => afterWrite_ok _ (InpLe.msg _ _))
    (portal := fun _ _ => afterWrite_ok _ (InpLe.msg _ _))
    (unknownKind := fun _ _ _ _ => extendedError_ok _ (InpLe.msg _ _))

theorem handleExecute_ok (s : Sess) : StepOk s.inp (handleExecute s) :=
  handleExecute_cases (P := StepOk s.inp) s
    (stop := fun _ => stop_ok _ _)
    (unknownPortal := fun _ _ _ => extendedError_ok _ (InpLe.msg _ _))
    (blocked := fun _ _ _ hr => blocked_ok hr (InpLe.msg _ _))
    (panicked := fun _ _ _ hr => extendedError_ok _ (ran_inp hr (InpLe.msg _ _)))   -- recovered
    (failed := fun _ _ _ hr => extendedError_ok _ (ran_inp hr (InpLe.msg _ _)))
    (done := fun _ _ _ hr => cont_ok (ran_inp hr (InpLe.msg _ _)))

/-- Execute: a panic inside the statement function (hostile result-format codes reach pgx's
    plan table) is contained — it becomes an ErrorResponse, never the end of the process -/
theorem handleExecute_safe (s : Sess) : Safe (handleExecute s) := (handleExecute_ok s).safe

theorem handleCommand_ok (h : Handlers) (t : UInt8) (s : Sess) : StepOk s.inp (handleCommand h t s) :=
  handleCommand_cases (P := fun _ => StepOk s.inp) h t s
    (skip := fun _ _ _ => cont_ok (InpLe.refl _))
    (query := fun _ => handleSimpleQuery_ok _ _)
    (execute := fun _ => handleExecute_ok _)
    (parse := fun _ => handleParse_ok _ _)
    (describe := fun _ => handleDescribe_ok _)
    (sync := afterWrite_ok _ (InpLe.refl _))
    (bind := fun _ => handleBind_ok _)
    (noop := fun _ _ => cont_ok (InpLe.refl _))
    (close := fun _ => handleClose_ok _)
    (terminate := fun _ => stop_ok _ _)
    (terminateHook := fun _ _ => stop_ok _ _)
    (unknown := fun _ _ => errorCode_ok _ (InpLe.refl _))

theorem handleCommand_safe (h : Handlers) (t : UInt8) (s : Sess) : Safe (handleCommand h t s) :=
  (handleCommand_ok h t s).safe

theorem handleOversize_ok (t : UInt8) (size : Int) (s : Sess) : StepOk s.inp (handleOversize t size s) := by
  fun_cases handleOversize t size s
  · exact errorCode_ok _ (InpLe.refl _)
  · exact afterWrite_ok _ (InpLe.refl _)

/-! ### the command loop -/

/-- `i` is the input that the iteration's one read leaves behind. -/
theorem stepCommand_ok (h : Handlers) (s : Sess) :
    ∃ i, InpLe s.inp i ∧ StepOk i (stepCommand h s) ∧
      ∀ s', stepCommand h s = .cont s' → i.items.length < s.inp.items.length := by
  unfold stepCommand
  have hn := next_spec s.inp
  rcases hnx : s.inp.next with ⟨rd, i⟩
  rw [hnx] at hn
  cases hn with
  | blocked ht => exact ⟨s.inp, InpLe.refl _, waiting_ok _ ht, fun _ he => Step.noConfusion he⟩
  | rerr ht => exact ⟨s.inp, InpLe.refl _, stop_ok _ _, fun _ he => Step.noConfusion he⟩
  | item it i h1 h2 h3 =>
    have hlt : i.items.length < s.inp.items.length := by omega
    have hle : InpLe s.inp i := ⟨Nat.le_of_lt hlt, h3, fun hne => by rw [h2]; exact hne⟩
    refine ⟨i, hle, ?_, fun _ _ => hlt⟩
    cases it with
    | msg t body => exact handleCommand_ok h t { s with inp := i }
    | big t sz full =>
      cases full with
      | true => exact handleOversize_ok t sz { s with inp := i }
      | false =>                                             -- Slurp did not complete
        dsimp only [Bool.false_eq_true, if_false]
        cases hti : i.tail with
        | wait => exact waiting_ok _ hti
        | rerr => exact stop_ok _ _
        | eof m => exact stop_ok _ _

theorem loop_safe (h : Handlers) : ∀ (fuel : Nat) (s : Sess), (loop h fuel s).2 ≠ .crashed := by
  intro fuel s
  fun_induction loop h fuel s with
  | case1 s => exact End.noConfusion
  | case2 fuel s s' e hs =>
    obtain ⟨_, _, ⟨_, _, safe⟩, _⟩ := stepCommand_ok h s
    intro he
    subst he
    exact safe s' hs
  | case3 fuel s s' hs ih => exact ih

/-- **progress**: an iteration of the command loop that goes on has consumed at least one
    message; one that stops in `waiting` was reading from a stream that is merely silent -/
theorem stepCommand_progress (h : Handlers) (s : Sess) :
    (∀ s', stepCommand h s = .cont s' → s'.inp.items.length < s.inp.items.length ∧
        (s.inp.tail ≠ .wait → s'.inp.tail ≠ .wait)) ∧
    (∀ s', stepCommand h s = .stop s' .waiting → s.inp.tail = .wait) := by
  obtain ⟨i, hle, ok, hlt⟩ := stepCommand_ok h s
  obtain ⟨cont, waiting, _⟩ := ok.mono hle
  exact ⟨fun s' he => ⟨Nat.lt_of_le_of_lt (ok.cont s' he).items_le (hlt s' he), (cont s' he).ended⟩, waiting⟩

/-- the loop's fuel is never what ends it: with an ended stream and the fuel `serve` supplies,
    the loop does not stop in `waiting` -/
theorem loop_ends (h : Handlers) : ∀ (fuel : Nat) (s : Sess), s.inp.tail ≠ .wait → s.inp.items.length < fuel →
    (loop h fuel s).2 ≠ .waiting := by
  intro fuel s ht hl
  fun_induction loop h fuel s with
  | case1 s => omega
  | case2 fuel s s' e hs =>
    intro he
    subst he
    exact ht ((stepCommand_progress h s).2 s' hs)
  | case3 fuel s s' hs ih =>
    obtain ⟨x, y⟩ := (stepCommand_progress h s).1 s' hs
    exact ih (y ht) (by omega)

/-- the fuel bound of the model's loop is adequate for every stream, waiting or ended: more fuel
    never changes the result (so `waiting` at fuel 0 is never an artefact of the model) -/
theorem loop_fuel (h : Handlers) : ∀ (fuel : Nat) (s : Sess), s.inp.items.length < fuel →
    loop h (fuel + 1) s = loop h fuel s := by
  intro fuel s hl
  fun_induction loop h fuel s with
  | case1 s => omega
  | case2 fuel s s' e hs => rw [loop, hs]
  | case3 fuel s s' hs ih =>
    rw [loop, hs]
    exact ih (by have := ((stepCommand_progress h s).1 s' hs).1; omega)

theorem runSession_safe (h : Handlers) (s : Sess) : (runSession h s).2 ≠ .crashed := by
  unfold runSession
  split
  · exact End.noConfusion
  · exact loop_safe h _ _

theorem runSession_ends (h : Handlers) (s : Sess) (ht : s.inp.tail ≠ .wait) : (runSession h s).2 ≠ .waiting := by
  unfold runSession
  split
  · exact End.noConfusion
  · rename_i s1 hs
    exact loop_ends h _ s1 (by rw [send_inp hs]; exact ht) (by omega)

/-! ### the phases before the command loop, and the whole connection -/

theorem authPhase_ok (cfg : Config) (h : Handlers) (s : Sess) (db user : Bytes) :
    (authPhase cfg h s db user).2 ≠ some .crashed ∧
    (s.inp.tail ≠ .wait → (authPhase cfg h s db user).2 ≠ some .waiting ∧
      ((authPhase cfg h s db user).2 = none → (authPhase cfg h s db user).1.inp.tail ≠ .wait)) := by
  have okOrClosed : ∀ ok : Bool, (if ok then none else some End.closed) ≠ some End.crashed ∧
      (if ok then none else some End.closed) ≠ some End.waiting := by decide
  refine authPhase_cases (P := fun r => r.2 ≠ some .crashed ∧
      (s.inp.tail ≠ .wait → r.2 ≠ some .waiting ∧ (r.2 = none → r.1.inp.tail ≠ .wait))) cfg h s db user ?_ ?_ ?_ ?_
  · intro s' ok _ hs
    exact ⟨(okOrClosed ok).1, fun ht => ⟨(okOrClosed ok).2, fun _ => by rw [send_inp hs]; exact ht⟩⟩
  · intro _ _
    exact ⟨nofun, fun _ => ⟨nofun, nofun⟩⟩
  · intro s1 i e _ hs he
    rw [send_inp hs] at he
    rcases he with rfl | ⟨rfl, hw⟩
    · exact ⟨nofun, fun _ => ⟨nofun, nofun⟩⟩
    · exact ⟨nofun, fun ht => absurd hw ht⟩
  · intro s1 body i pw r _ hs _ hi _ sv hsv
    refine ⟨fun _ => ⟨nofun, fun _ => ⟨nofun, nofun⟩⟩, fun _ => ⟨nofun, fun _ => ⟨nofun, nofun⟩⟩,
      fun _ s' ok hs' => ⟨(okOrClosed ok).1, fun ht => ⟨(okOrClosed ok).2, fun _ => ?_⟩⟩⟩
    rw [send_inp hs', hsv]
    show i.tail ≠ .wait
    rw [hi, send_inp hs]
    exact ht

theorem sessionStart_tail (s0 : Sess) (rest : Bytes) (ht : s0.inp.tail ≠ .wait) : (sessionStart s0 rest).inp.tail ≠ .wait := by
  unfold sessionStart
  cases h : s0.inp.tail with
  | wait => exact absurd h ht
  | rerr => simp
  | eof m => simp

theorem sendParams_inp (ps : List (Bytes × Bytes)) (s : Sess) : (sendParams ps s).1.inp = s.inp := by
  fun_induction sendParams ps s with
  | case1 => rfl
  | case2 k v r s s1 hs => exact send_inp hs
  | case3 k v r s s1 hs ih => rw [ih]; exact send_inp hs

theorem runMiddlewares_inp (ms : List Bool) (i : Nat) (s : Sess) : (runMiddlewares ms i s).1.inp = s.inp := by
  fun_induction runMiddlewares ms i s with
  | case1 => rfl
  | case2 r i s s1 ih => exact ih
  | case3 => rfl

theorem serveAfterVersion_safe (cfg : Config) (h : Handlers) (s0 : Sess) (body rest : Bytes) (st : Bool) (ssl : Option UInt8) :
    (serveAfterVersion cfg h s0 body rest st ssl).ending ≠ .crashed := by
  obtain ⟨s, e, cp, sp, heq, hq⟩ := serveAfterVersion_rule (I := fun _ => True) (Q := fun _ e => e ≠ .crashed)
    cfg h s0 body rest st ssl (handed := trivial) (setUp := trivial) (closed := fun _ _ => End.noConfusion)
    (authGoesOn := fun _ _ _ _ _ => trivial)
    (authEnds := fun s db user e _ he hc => (authPhase_ok cfg h s db user).1 (by rw [he, hc]))
    (params := fun _ _ _ _ => trivial) (middlewares := fun _ _ => trivial) (session := fun s _ => runSession_safe h s)
  rw [heq]
  exact hq

/-- **C04 (the process keeps running).** Whatever the configuration, the handler programs and
    the bytes a client sends — on the plaintext connection or inside TLS — serving a connection
    never ends in an unrecovered panic. -/
theorem C04_no_crash (cfg : Config) (h : Handlers) (inp tin : Bytes) : (serve cfg h inp tin).ending ≠ .crashed := by
  refine serve_cases (P := fun r => r.ending ≠ .crashed) cfg h inp tin (fun w e st ssl he => ?_)
    (fun w body rest st ssl => serveAfterVersion_safe _ _ _ _ _ _ _)
  show e ≠ .crashed
  rcases he with rfl | rfl
  · exact End.noConfusion
  · cases cfg.tail <;> exact End.noConfusion

/-! ### the connection is released once its input has ended -/

theorem serveAfterVersion_ends (cfg : Config) (h : Handlers) (s0 : Sess) (body rest : Bytes) (st : Bool) (ssl : Option UInt8)
    (ht : s0.inp.tail ≠ .wait) : (serveAfterVersion cfg h s0 body rest st ssl).ending ≠ .waiting := by
  obtain ⟨s, e, cp, sp, heq, hq⟩ := serveAfterVersion_rule (I := fun s => s.inp.tail ≠ .wait) (Q := fun _ e => e ≠ .waiting)
    cfg h s0 body rest st ssl (handed := ht) (setUp := sessionStart_tail s0 rest ht) (closed := fun _ _ => End.noConfusion)
    (authGoesOn := fun s db user hs => ((authPhase_ok cfg h s db user).2 hs).2)
    (authEnds := fun s db user e hs he hc => ((authPhase_ok cfg h s db user).2 hs).1 (by rw [he, hc]))
    (params := fun _ _ s hs => by rw [sendParams_inp]; exact hs)
    (middlewares := fun s hs => by rw [runMiddlewares_inp]; exact hs)
    (session := fun s hs => runSession_ends h s hs)
  rw [heq]
  exact hq

/-- **C04 (no wedge).** Once the client's input has ended — the transport fails reads (`rerr`) or
    the client has closed its side (`eof`), at ANY byte position, in any phase — serving the
    connection comes to an end: it is never left waiting. With `C04_no_crash`: it is closed. -/
theorem C04_ends (cfg : Config) (h : Handlers) (inp tin : Bytes) (ht : cfg.tail ≠ .wait) :
    (serve cfg h inp tin).ending = .closed := by
  have h1 := C04_no_crash cfg h inp tin
  have h2 : (serve cfg h inp tin).ending ≠ .waiting := by
    refine serve_cases (P := fun r => r.ending ≠ .waiting) cfg h inp tin (fun w e st ssl he => ?_)
      (fun w body rest st ssl => serveAfterVersion_ends _ _ _ _ _ _ _ ht)
    show e ≠ .waiting
    rcases he with rfl | rfl
    · exact End.noConfusion
    · cases hc : cfg.tail with
      | wait => exact absurd hc ht
      | rerr => exact End.noConfusion
      | eof m => exact End.noConfusion
  cases hc : (serve cfg h inp tin).ending with
  | closed => rfl
  | waiting => exact absurd hc h2
  | crashed => exact absurd hc h1

/-! ### nothing fabricated reaches a callback, allocation of the message buffer

  Proved where the decoders live; the imports of C08, C14, C18 and C20 are there to collect them
  here (the check of C04 audits them through this module): `Pw.Props.C08.C08_sound` (an accepted Bind
  body IS the encoding of the parameters handed to the statement function), `Pw.Props.C14.C14_count_mismatch`
  and `C14_truncated_count` (a binary COPY row with a lying field count, or a stream ending inside a
  row, is an error), `Pw.Props.C14.C14_chunking` (the rows do not depend on the CopyData cuts),
  `Pw.Props.C20.C20_bounded` (ParseParameters is total and capped), `Pw.Props.C18.C18_alloc_bound`
  (the message buffer is sized by min(declared, limit)). -/

/-- non-vacuity: a client that sends a startup packet, half a Query message and then closes its side -/
example :
    (serve { tail := .eof true } { parse := fun _ => .ok [], validate := fun _ _ _ => .accept, mws := [], terminate := none }
      (be32 9 ++ be32 196608 ++ [0] ++ [81, 0, 0, 0, 9, 65])).ending = .closed := by decide

end Pw.Props.C04
