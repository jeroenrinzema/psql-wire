import Pw.Generated.TransStartup
import Pw.Props.TieFraming
import Pw.Model.Serve
/-
  Start-up parsing: `Server.readVersion` and `Server.readClientParameters` of handshake.go, translated on every run
  (`go/translate -startup` -> `Pw/Generated/TransStartup.lean` over `Pw/Go/RtStartup.lean`), against what
  `Pw/Model/Serve.lean` uses in their place: `readUntyped` followed by `getU32` of the packet body (`serve`);
  `readClientParams` (`serveAfterVersion`), for EVERY packet body; `versionCancel`, `versionSSL`.
-/
namespace Pw.Tie
open Pw.Go

/-! ### the translator handled everything it was asked to; the constants and where they are tested -/
example : TransStartup.untranslatable = [] := rfl
example : TransStartup.versionConsts = ["VersionCancel", "VersionSSLRequest"] := rfl
example : TransStartup.versionTests = [("Handshake", "==", "VersionCancel"),
    ("potentialConnUpgrade", "!=", "VersionSSLRequest"), ("sslUnsupported", "==", "VersionCancel")] := rfl

theorem su_tie_VersionCancel : TransStartup.VersionCancel = (versionCancel : Int) := by decide
theorem su_tie_VersionSSLRequest : TransStartup.VersionSSLRequest = (versionSSL : Int) := by decide

/-- Go's `m[k] = v` on the association list is the model's `store` -/
theorem su_mapSet_store (m : Params) (k v : Bytes) : mapSet m k v = store k v m := rfl
theorem su_mapEmpty : (mapEmpty : Params) = [] := rfl
theorem su_mapGet_lookup (m : Params) (k : Bytes) : mapGet m k = lookup k m := by
  induction m with
  | nil => rfl
  | cons p r ih => obtain ⟨a, b⟩ := p; simp only [mapGet, lookup, ih]

/-! ### readClientParameters -/

/-- the model's `readClientParams` together with the number of bytes of the body it consumes -/
def su_scan : Nat → Bytes → Params → Option Params × Nat
  | 0, _, _ => (none, 0)
  | fuel + 1, m, acc =>
    match cstr m with
    | none => (none, 0)
    | some (k, r) =>
      if k = [] then (some acc, 1)
      else match cstr r with
        | none => (none, k.length + 1)
        | some (v, r') => ((su_scan fuel r' (store k v acc)).1, (k.length + 1) + (v.length + 1) + (su_scan fuel r' (store k v acc)).2)

theorem su_scan_model (fuel : Nat) (m : Bytes) (acc : Params) :
    (su_scan fuel m acc).1 = readClientParams fuel m acc := by
  fun_induction su_scan fuel m acc <;> simp [readClientParams, *]

theorem su_scan_le (fuel : Nat) (m : Bytes) (acc : Params) : (su_scan fuel m acc).2 ≤ m.length := by
  fun_induction su_scan fuel m acc
  case case1 => exact Nat.zero_le _
  case case2 => exact Nat.zero_le _
  case case3 hc => have := cstr_length hc; simp at this; omega
  case case4 hc _ _ => have := cstr_length hc; omega
  case case5 hc _ _ _ hc2 ih => have := cstr_length hc; have := cstr_length hc2; simp only; omega

theorem su_scan_fuel (f g : Nat) (m : Bytes) (acc : Params) (hf : m.length < f) (hg : m.length < g) :
    su_scan f m acc = su_scan g m acc := by
  fun_induction su_scan f m acc generalizing g
  case case1 => omega
  all_goals
    obtain _ | g := g
    · omega
    rw [su_scan]
  case case2 hc => rw [hc]
  case case3 hc => rw [hc]; rfl
  case case4 k r hc hk hc2 => rw [hc]; simp only [hk, if_false, hc2]
  case case5 k r hc hk v r' hc2 ih =>
    have := cstr_length hc
    have := cstr_length hc2
    rw [hc]; simp only [hk, if_false, hc2]
    rw [ih g (by omega) (by omega)]

/-- what `readClientParameters` returns for a verdict of the model: the context with the parameter map attached,
    or a nil context and the reader's missing-terminator error; the window moved on over what was read -/
def su_result (w : World) (x : Option Params × Nat) : Out (CtxR × Option Go.Err) :=
  match x.1 with
  | some cp => .ok (.withClient cp, none) (su_adv x.2 w)
  | none => .ok (.nil, some Go.Err.missingNul) (su_adv x.2 w)

/-- the loop of `readClientParameters`, for every window contents, accumulator and adequate fuel: by the cases
    of the model's scan of the window -/
theorem su_tie_loop (fuel : Nat) (e : Option Go.Err) (acc : Params) (w : World) (hwf : Sl.WF w.reader.Msg)
    (hlen : w.reader.Msg.data.length < fuel) :
    TransStartup.Server_readClientParameters.loop1 fuel e acc w = su_result w (su_scan fuel w.reader.Msg.data acc) := by
  generalize hm : w.reader.Msg.data = m at hlen ⊢
  fun_induction su_scan fuel m acc generalizing w
  case case1 => omega
  case case2 hc => -- the key has no terminator
    rw [TransStartup.Server_readClientParameters.loop1, tie_GetString_none w hwf (hm ▸ hc)]
    rfl
  case case3 r hc => -- the empty key ends the list
    rw [TransStartup.Server_readClientParameters.loop1, tie_GetString_some w hwf [] r (hm ▸ hc)]
    rfl
  case case4 k r hc hk hc2 => -- a key without value
    have hwf1 := su_adv_wf (k.length + 1) w hwf
    have hd1 : (su_adv (k.length + 1) w).reader.Msg.data = r := by rw [su_adv_data, hm, ← (cstr_take_drop hc).2.2]
    have hk0 : ¬ ((k.length : Int) = 0) := by rw [Int.natCast_eq_zero, List.length_eq_zero_iff]; exact hk
    rw [TransStartup.Server_readClientParameters.loop1, tie_GetString_some w hwf k r (hm ▸ hc), Out.ok_bind]
    simp only [ne_eq, not_true_eq_false, if_false]
    rw [if_neg hk0, tie_GetString_none _ hwf1 (hd1 ▸ hc2)]
    rfl
  case case5 k r hc hk v r' hc2 ih => -- a pair, and the loop goes on behind it
    have hwf1 := su_adv_wf (k.length + 1) w hwf
    have hd1 : (su_adv (k.length + 1) w).reader.Msg.data = r := by rw [su_adv_data, hm, ← (cstr_take_drop hc).2.2]
    have hk0 : ¬ ((k.length : Int) = 0) := by rw [Int.natCast_eq_zero, List.length_eq_zero_iff]; exact hk
    have hd2 : (su_adv (v.length + 1) (su_adv (k.length + 1) w)).reader.Msg.data = r' := by
      rw [su_adv_data, hd1, ← (cstr_take_drop hc2).2.2]
    rw [TransStartup.Server_readClientParameters.loop1, tie_GetString_some w hwf k r (hm ▸ hc), Out.ok_bind]
    simp only [ne_eq, not_true_eq_false, if_false]
    rw [if_neg hk0, tie_GetString_some _ hwf1 v r' (hd1 ▸ hc2), Out.ok_bind]
    simp only [not_true_eq_false, if_false]
    have h1 := cstr_length hc
    have h2 := cstr_length hc2
    rw [su_mapSet_store, ih _ (su_adv_wf _ _ hwf1) hd2 (by omega)]
    unfold su_result
    simp only [su_adv_adv]

/-- **readClientParameters = the model's `readClientParams`**, on ANY packet body (the reader's window `body`):
    the context carries exactly the model's parameter list (pairs stored in order, a repeated key overwritten,
    an empty key ends the list), a body that ends inside a key or a value — no terminator, or a key without
    value — is the reader's missing-terminator error with a nil context; the window is moved over exactly
    the bytes consumed; no panic, no fuel exhaustion, no blocking read -/
theorem su_tie_readClientParameters (w : World) (h : Sl.WF w.reader.Msg) (fuel : Nat)
    (hf : w.reader.Msg.data.length < fuel) :
    TransStartup.Server_readClientParameters fuel w =
      match readClientParams fuel w.reader.Msg.data [] with
      | some cp => .ok (.withClient cp, none) (su_adv (su_scan fuel w.reader.Msg.data []).2 w)
      | none => .ok (.nil, some Go.Err.missingNul) (su_adv (su_scan fuel w.reader.Msg.data []).2 w) := by
  unfold TransStartup.Server_readClientParameters
  simp only [su_mapEmpty]
  rw [su_tie_loop fuel none [] w h hf, ← su_scan_model]
  rfl

/-- the same with the fuel the model's `serveAfterVersion` uses -/
theorem su_tie_readClientParameters_model (w : World) (h : Sl.WF w.reader.Msg) :
    TransStartup.Server_readClientParameters (w.reader.Msg.data.length + 1) w =
      match readClientParams (w.reader.Msg.data.length + 1) w.reader.Msg.data [] with
      | some cp => .ok (.withClient cp, none) (su_adv (su_scan (w.reader.Msg.data.length + 1) w.reader.Msg.data []).2 w)
      | none => .ok (.nil, some Go.Err.missingNul) (su_adv (su_scan (w.reader.Msg.data.length + 1) w.reader.Msg.data []).2 w) :=
  su_tie_readClientParameters w h _ (Nat.lt_succ_self _)

/-- `readClientParameters` with ANY adequate fuel is the model's `readClientParams` with the fuel of `serveAfterVersion` -/
theorem su_tie_readClientParameters_anyfuel (w : World) (h : Sl.WF w.reader.Msg) (fuel : Nat)
    (hf : w.reader.Msg.data.length < fuel) :
    TransStartup.Server_readClientParameters fuel w =
      TransStartup.Server_readClientParameters (w.reader.Msg.data.length + 1) w := by
  rw [su_tie_readClientParameters w h fuel hf, su_tie_readClientParameters w h _ (Nat.lt_succ_self _),
    ← su_scan_model, ← su_scan_model, su_scan_fuel fuel (w.reader.Msg.data.length + 1) _ _ hf (Nat.lt_succ_self _)]

/-- no panic, no exhausted fuel, no blocking read: `readClientParameters` always returns -/
theorem su_readClientParameters_returns (w : World) (h : Sl.WF w.reader.Msg) (fuel : Nat)
    (hf : w.reader.Msg.data.length < fuel) :
    ∃ r w', TransStartup.Server_readClientParameters fuel w = .ok r w' ∧ w'.src = w.src ∧ w'.sink = w.sink ∧
      w'.writer = w.writer ∧ Sl.WF w'.reader.Msg ∧
      ∃ n, n ≤ w.reader.Msg.data.length ∧ w'.reader.Msg.data = w.reader.Msg.data.drop n := by
  rw [su_tie_readClientParameters w h fuel hf]
  have hle := su_scan_le fuel w.reader.Msg.data []
  cases readClientParams fuel w.reader.Msg.data [] with
  | none => exact ⟨_, _, rfl, rfl, rfl, rfl, su_adv_wf _ w h, _, hle, rfl⟩
  | some cp => exact ⟨_, _, rfl, rfl, rfl, rfl, su_adv_wf _ w h, _, hle, rfl⟩

/-- the error can only be the missing terminator, and then the context is nil -/
theorem su_readClientParameters_error (w : World) (h : Sl.WF w.reader.Msg) (fuel : Nat)
    (hf : w.reader.Msg.data.length < fuel) (c : CtxR) (e : Go.Err) (w' : World)
    (hr : TransStartup.Server_readClientParameters fuel w = .ok (c, some e) w') :
    e = Go.Err.missingNul ∧ c = .nil ∧ readClientParams fuel w.reader.Msg.data [] = none := by
  rw [su_tie_readClientParameters w h fuel hf] at hr
  cases hm : readClientParams fuel w.reader.Msg.data [] with
  | none =>
    rw [hm] at hr
    cases hr
    exact ⟨rfl, rfl, rfl⟩
  | some cp =>
    rw [hm] at hr
    cases hr

/-! ### readVersion -/

theorem su_readUntyped_msg {L : Nat} {inp body rest : Bytes} (h : readUntyped L inp = .msg body rest) :
    ∃ a b c d r n, inp = a :: b :: c :: d :: r ∧ sizeVerdict L (declaredOf a b c d) = .ok n ∧ n ≤ r.length ∧
      body = r.take n ∧ rest = r.drop n := by
  unfold readUntyped at h
  cases hr : rd32 inp with
  | none => rw [hr] at h; cases h
  | some p =>
    obtain ⟨dcl, r⟩ := p
    obtain ⟨a, b, c, d, hi, hd⟩ := rd32_some.mp hr
    rw [hr] at h
    dsimp only at h
    -- `dcl` stays a variable until the end: with the byte arithmetic in its place the kernel unfolds `sizeVerdict`
    cases hv : sizeVerdict L dcl with
    | exceeded size => rw [hv] at h; cases h
    | ok n =>
      rw [hv] at h
      dsimp only at h
      by_cases hl : r.length < n
      · rw [if_pos hl] at h; cases h
      · rw [if_neg hl] at h
        injection h with hb hrest
        subst hd
        exact ⟨a, b, c, d, r, n, hi, hv, by omega, hb.symm, hrest.symm⟩

theorem su_afterMsg_data (w : World) (hdr r : Bytes) (n : Nat) : (afterMsg w hdr r n).reader.Msg.data = r.take n := rfl

/-- **readVersion = the model's version read**: when the model's `readUntyped` delivers a start-up packet
    (`serve`), `readVersion` returns the big-endian 32 bit value of the first four bytes of its body
    (`getU32 body`, as the model does), leaves the rest of the body in the reader's window and the rest of the
    stream unread; a body shorter than four bytes is the reader's insufficient-data error, passed on -/
theorem su_tie_readVersion (w : World) (ok : ReaderOK w) (body rest : Bytes)
    (h : readUntyped w.reader.MaxMessageSize.toNat w.src = .msg body rest) :
    ∃ w', w'.reader.Msg.data = body ∧ w'.src = rest ∧ Sl.WF w'.reader.Msg ∧ w'.sink = w.sink ∧ w'.writer = w.writer ∧
      TransStartup.Server_readVersion w =
        match getU32 body with
        | some (v, _) => .ok ((v : Int), none) (su_adv 4 w')
        | none => .ok (0, some (Go.Err.insufficient (body.length : Int))) w' := by
  obtain ⟨a, b, c, d, r, n, hs, hv, hn, rfl, rfl⟩ := su_readUntyped_msg h
  have h62 : n < 4611686018427387904 := by
    have := (sizeVerdict_ok hv).2; have := ok.max; omega
  have hwf := (afterMsg_ok w ok [a, b, c, d] r n rfl hn h62).wf
  have hfr := resetSpec_frame n (setHeader { w with src := r } [a, b, c, d])
  refine ⟨afterMsg w [a, b, c, d] r n, rfl, rfl, hwf, hfr.2.2.2.1, hfr.2.2.1, ?_⟩
  unfold TransStartup.Server_readVersion
  rw [tie_ReadUntypedMsg_ok w ok a b c d r n hs hv hn]
  simp only [Out.bind, ne_eq, not_true_eq_false, if_false]
  rw [tie_GetUint32 _ hwf, su_afterMsg_data]
  cases hg : getU32 (r.take n) with
  | none =>
    simp only [reduceCtorEq, not_false_eq_true, if_true]
    rfl
  | some p =>
    obtain ⟨v, b'⟩ := p
    obtain ⟨x, y, z, t, _, rfl⟩ := rd32_some.mp hg
    have hlt := be32val_lt x y z t
    have hu : u32 ((be32val x y z t : Nat) : Int) = (be32val x y z t : Nat) := u32_id _ (by omega) (by omega)
    simp only [not_true_eq_false, if_false, hu]
    rfl

/-- the same, read as the model's `serve` reads it: the code's two tests on the version are the model's -/
theorem su_tie_readVersion_value (w : World) (ok : ReaderOK w) (body rest b' : Bytes) (v : Nat)
    (h : readUntyped w.reader.MaxMessageSize.toNat w.src = .msg body rest) (hg : getU32 body = some (v, b')) :
    ∃ w', TransStartup.Server_readVersion w = .ok ((v : Int), none) w' ∧ w'.reader.Msg.data = b' ∧ w'.src = rest ∧
      Sl.WF w'.reader.Msg ∧
      (((v : Int) = TransStartup.VersionCancel) ↔ v = versionCancel) ∧
      (((v : Int) ≠ TransStartup.VersionSSLRequest) ↔ v ≠ versionSSL) := by
  obtain ⟨w', hd, hsrc, hwf, _, _, e⟩ := su_tie_readVersion w ok body rest h
  rw [hg] at e
  have hb' : b' = body.drop 4 := by
    obtain ⟨x, y, z, t, hbody, _⟩ := rd32_some.mp hg
    rw [hbody]; rfl
  refine ⟨su_adv 4 w', e, ?_, hsrc, su_adv_wf 4 w' hwf, ?_, ?_⟩
  · rw [su_adv_data, hd, hb']
  · rw [su_tie_VersionCancel]; omega
  · rw [su_tie_VersionSSLRequest]; omega

/-- errors are passed on (1): a declared length outside the limit — `ReadUntypedMsg`'s error, version 0 -/
theorem su_tie_readVersion_exceeded (w : World) (ok : ReaderOK w) (a b c d : UInt8) (r : Bytes) (size : Int)
    (hs : w.src = a :: b :: c :: d :: r)
    (hv : sizeVerdict w.reader.MaxMessageSize.toNat (declaredOf a b c d) = .exceeded size) :
    TransStartup.Server_readVersion w =
      .ok (0, some (Go.Err.sizeExceeded w.reader.MaxMessageSize size)) (setHeader { w with src := r } [a, b, c, d]) := by
  unfold TransStartup.Server_readVersion
  rw [tie_ReadUntypedMsg_big w ok a b c d r size hs hv]
  simp only [Out.bind, ne_eq, reduceCtorEq, not_false_eq_true, if_true]

/-- errors are passed on (2): the stream ends inside the length word — blocked on a silent stream, otherwise
    the transport's error (EOF on an empty stream, unexpected EOF inside the word), version 0 -/
theorem su_tie_readVersion_short (w : World) (ok : ReaderOK w) (hs : w.src.length < 4) :
    TransStartup.Server_readVersion w =
      match w.fin with
      | .wait => .block
      | .rerr => .ok (0, some Go.Err.readErr) (setHeader { w with src := [] } (w.src ++ w.reader.header.drop w.src.length))
      | .eof => .ok (0, some (if w.src = [] then Go.Err.eof else Go.Err.unexpectedEOF))
          (setHeader { w with src := [] } (w.src ++ w.reader.header.drop w.src.length)) := by
  unfold TransStartup.Server_readVersion
  rw [tie_ReadUntypedMsg_shorthdr w ok hs]
  unfold onDry
  cases w.fin <;> rfl

/-! ### concrete packets -/
def su_world (body : Bytes) : World :=
  { reader := { Msg := { nil := false, arena := 0, off := 0, cap := 4096, data := body }, MaxMessageSize := 4096 } }

/-- user=al, then the terminator, then a stray byte -/
def su_body1 : Bytes := [117, 115, 101, 114, 0, 97, 108, 0, 0, 9]
/-- user=a, user=b (a repeated key) -/
def su_body2 : Bytes := [117, 0, 97, 0, 117, 0, 98, 0, 0]
/-- a key without terminator -/
def su_body3 : Bytes := [117, 0, 97, 0, 100, 98]
/-- a key without value -/
def su_body4 : Bytes := [117, 0, 97, 0, 100, 98, 0]

def su_view (o : Out (CtxR × Option Go.Err)) : Option (CtxR × Option Go.Err × Bytes) :=
  match o with
  | .ok r w => some (r.1, r.2, w.reader.Msg.data)
  | _ => none

example : su_view (TransStartup.Server_readClientParameters 11 (su_world su_body1)) =
    some (.withClient [([117, 115, 101, 114], [97, 108])], none, [9]) := by decide +kernel
example : su_view (TransStartup.Server_readClientParameters 10 (su_world su_body2)) =
    some (.withClient [([117], [98])], none, []) := by decide +kernel
example : su_view (TransStartup.Server_readClientParameters 10 (su_world su_body3)) =
    some (.nil, some Go.Err.missingNul, [100, 98]) := by decide +kernel
example : su_view (TransStartup.Server_readClientParameters 10 (su_world su_body4)) =
    some (.nil, some Go.Err.missingNul, []) := by decide +kernel
example : readClientParams 10 su_body4 [] = none := by decide +kernel
example : readClientParams 10 su_body2 [] = some [([117], [98])] := by decide +kernel

/-- SSLRequest packet on the stream: length 8, version 80877103 -/
def su_ssl : Bytes := [0, 0, 0, 8, 4, 210, 22, 47]
def su_streamWorld (src : Bytes) : World := { reader := { MaxMessageSize := 4096 }, src := src }
def su_viewV (o : Out (Int × Option Go.Err)) : Option (Int × Option Go.Err × Bytes × Bytes) :=
  match o with
  | .ok r w => some (r.1, r.2, w.reader.Msg.data, w.src)
  | _ => none
example : su_viewV (TransStartup.Server_readVersion (su_streamWorld (su_ssl ++ [1, 2]))) =
    some (TransStartup.VersionSSLRequest, none, [], [1, 2]) := by decide +kernel
example : su_viewV (TransStartup.Server_readVersion (su_streamWorld [0, 0, 0, 6, 4, 210, 7])) =
    some (0, some (Go.Err.insufficient 2), [4, 210], [7]) := by decide +kernel

end Pw.Tie
