import Pw.Model.Params
import Pw.Lemmas.Backend
/-
  C20 — ParseParameters is total and counts placeholders correctly.

  `parseParameters` is a total structurally recursive function (no partiality, no panic
  outcome exists in its type); the theorems below give its exact result.
-/
namespace Pw.Props.C20

def isPos : Marker → Bool
  | .pos _ => true
  | .anon => false

def isAnon : Marker → Bool
  | .anon => true
  | .pos _ => false

/-- highest positional index among the markers -/
def maxIndex : List Marker → Nat
  | [] => 0
  | .pos n :: r => max n (maxIndex r)
  | .anon :: r => maxIndex r

theorem paramStep_pos (len n : Nat) : paramStep len (.pos n) = max len (min n maxArgs) := by
  simp only [paramStep]
  split <;> split <;> omega

theorem paramStep_anon (len : Nat) (h : len ≤ maxArgs) : paramStep len .anon = min (len + 1) maxArgs := by
  simp only [paramStep]
  split <;> omega

theorem paramStep_le (len : Nat) (m : Marker) (h : len ≤ maxArgs) : paramStep len m ≤ maxArgs := by
  cases m with
  | anon =>
    rw [paramStep_anon len h]
    exact Nat.min_le_right _ _
  | pos n =>
    rw [paramStep_pos]
    exact Nat.max_le.mpr ⟨h, Nat.min_le_right _ _⟩

theorem fold_le (ms : List Marker) : ∀ len, len ≤ maxArgs → ms.foldl paramStep len ≤ maxArgs := by
  induction ms with
  | nil => intro len h; simpa
  | cons m ms ih => intro len h; exact ih _ (paramStep_le len m h)

/-- **bounded result**: never more than the protocol's 65535 parameters -/
theorem C20_bounded (q : Bytes) : (parseParameters q).length ≤ 65535 := by
  simp only [parseParameters, List.length_replicate, paramCount]
  exact fold_le _ 0 (by simp [maxArgs])

/-- capping commutes with the maximum, so the fold is the capped maximum -/
theorem fold_pos (ms : List Marker) (h : ∀ m ∈ ms, isPos m = true) (len : Nat) :
    ms.foldl paramStep len = max len (min (maxIndex ms) maxArgs) := by
  induction ms generalizing len with
  | nil => simp [maxIndex]
  | cons m ms ih =>
    obtain ⟨hm, hms⟩ := List.forall_mem_cons.mp h
    cases m with
    | anon => exact absurd hm (by simp [isPos])
    | pos n =>
      rw [List.foldl_cons, ih hms, paramStep_pos, maxIndex, Nat.max_assoc,
        Nat.min_max_distrib_right]

/-- **$n-style queries**: the length is the highest positional index (capped at 65535),
    whatever the order, gaps and repetitions of the markers and however large the indexes -/
theorem C20_positional (q : Bytes) (h : ∀ m ∈ markers q, isPos m = true) :
    (parseParameters q).length = min (maxIndex (markers q)) 65535 := by
  simp only [parseParameters, List.length_replicate, paramCount]
  rw [fold_pos _ h 0]
  simp [maxArgs]

theorem fold_anon (ms : List Marker) (h : ∀ m ∈ ms, isAnon m = true) :
    ∀ len, len ≤ maxArgs → ms.foldl paramStep len = min (len + ms.length) maxArgs := by
  induction ms with
  | nil => intro len hl; simp; omega
  | cons m ms ih =>
    intro len hl
    obtain ⟨hm, hms⟩ := List.forall_mem_cons.mp h
    cases m with
    | pos n => exact absurd hm (by simp [isAnon])
    | anon =>
      rw [List.foldl_cons, List.length_cons, ih hms _ (paramStep_le len .anon hl), paramStep_anon len hl]
      omega

/-- **?-style queries**: the length is the number of markers (capped at 65535) -/
theorem C20_anonymous (q : Bytes) (h : ∀ m ∈ markers q, isAnon m = true) :
    (parseParameters q).length = min (markers q).length 65535 := by
  simp only [parseParameters, List.length_replicate, paramCount]
  rw [fold_anon _ h 0 (by simp [maxArgs])]
  simp [maxArgs]

/-- every placeholder has the unspecified type (OID 0) -/
theorem C20_unspecified (q : Bytes) : ∀ o ∈ parseParameters q, o = 0 := by
  intro o ho
  simp only [parseParameters] at ho
  exact (List.mem_replicate.mp ho).2

theorem markersAux_length (fuel : Nat) (s : Bytes) : (markersAux fuel s).length ≤ fuel := by
  fun_induction markersAux fuel s with
  | case1 | case2 | case6 => exact Nat.zero_le _
  | case3 fuel r ih => exact Nat.succ_le_succ ih                               -- `?`
  | case4 fuel d t hd n rest _ hn ih =>                                        -- `$` and digits
    have : (markersAux fuel (takeDigits (d :: t) 0).2).length ≤ fuel := by rw [hn]; exact ih
    exact Nat.succ_le_succ this
  | case5 fuel d t hd _ ih => exact Nat.le_succ_of_le ih                       -- `$` alone
  | case7 fuel b r _ _ ih => exact Nat.le_succ_of_le ih                        -- any other byte

/-- **work**: the scan yields at most one marker per input byte -/
theorem C20_work (q : Bytes) : (markers q).length ≤ q.length := markersAux_length _ _

/-- **Describe**: the ParameterDescription built from the result is a well-formed message
    whose 16-bit count is exactly the reported length -/
theorem C20_describe (q : Bytes) :
    (BMsg.paramDesc (parseParameters q)).WF ∧
    rd16 (BMsg.paramDesc (parseParameters q)).body = some ((parseParameters q).length,
      (parseParameters q).flatMap be32) := by
  have hb := C20_bounded q
  refine ⟨⟨by omega, ?_⟩, ?_⟩
  · intro o ho; rw [C20_unspecified q o ho]; omega
  · simp only [BMsg.body]
    exact rd16_be16 _ (by omega) _

/-- non-vacuity / the formerly panicking inputs: `s$5` has length 5, `? $3` has length 3,
    a 20-digit index is capped -/
example : (parseParameters [115, 36, 53]).length = 5 := by decide
example : (parseParameters [63, 32, 36, 51]).length = 3 := by decide
example : paramCount ([36] ++ List.replicate 20 57) = 65535 := by decide
example : ∀ m ∈ markers [36, 50, 32, 36, 55, 32, 36, 49], isPos m = true := by decide

end Pw.Props.C20
