import Pw.Model.Heap
/-
  C18 — data handed to callbacks is never overwritten by later traffic.
-/
namespace Pw.Props.C18
open Pw.Heap

/-- the invariant: every view handed out so far lies in an allocated arena and, inside the
    CURRENT arena, entirely below the end of the current window; the window fits its arena -/
structure Inv (s : St) : Prop where
  arenas : ∀ v ∈ s.views, v.arena < s.nArenas
  below : ∀ w, s.cur = some w → ∀ v ∈ s.views, v.arena = w.arena → v.hi ≤ w.off + w.len
  fits : ∀ w, s.cur = some w → w.len ≤ w.cap ∧ w.arena < s.nArenas

theorem inv_init : Inv {} := ⟨by simp, by simp, by simp⟩

/-- the three things `reset` can do: nothing (`Msg == nil`, `size == 0`), reuse the spare capacity
    behind the current message, or allocate a fresh arena of `max size granule` bytes -/
theorem reset_cases (size : Nat) (s : St) :
    reset size s = s ∧ s.cur = none ∨
    (∃ w, s.cur = some w ∧ size ≤ w.cap - w.len ∧
      reset size s = { s with cur := some { w with off := w.off + w.len, len := size, cap := w.cap - w.len } }) ∨
    reset size s = { s with nArenas := s.nArenas + 1, cur := some ⟨s.nArenas, 0, size, max size granule⟩,
                            allocs := max size granule :: s.allocs } := by
  have hmax : (if size < granule then granule else size) = max size granule := by
    split <;> omega
  unfold reset
  cases hc : s.cur with
  | none =>
    by_cases h : (0 : Nat) ≥ size
    · refine Or.inl ⟨?_, rfl⟩
      simp only [Option.map_none, h, if_true]
      -- `{ s with cur := none }` is `s` itself
      exact hc ▸ rfl
    · refine Or.inr (Or.inr ?_)
      simp [h, hmax]
  | some w =>
    by_cases h : w.cap - w.len ≥ size
    · exact Or.inr (Or.inl ⟨w, rfl, h, by simp [h]⟩)
    · refine Or.inr (Or.inr ?_)
      simp [h, hmax]

/-- **the write of the next message never touches a view handed out before**: after
    `reset(size)` the window the body is read into is disjoint from EVERY earlier view — whether
    the window reuses spare capacity behind the previous message or lives in a new arena -/
theorem C18_write_disjoint (s : St) (size : Nat) (hi : Inv s) :
    ∀ r, window (reset size s) = some r → ∀ v ∈ s.views, v.disjoint r := by
  intro r hr v hv
  rcases reset_cases size s with ⟨h, hc⟩ | ⟨w, hc, _, h⟩ | h <;> rw [h] at hr
  · simp [window, hc] at hr
  · -- reuse: the window starts where the current one ends, and every view in this arena lies below that
    cases hr
    by_cases ha : v.arena = w.arena
    · exact Or.inr (Or.inl (hi.below w hc v hv ha))
    · exact Or.inl ha
  · -- fresh arena: no view is in it
    cases hr
    exact Or.inl (Nat.ne_of_lt (hi.arenas v hv))

theorem inv_reset (s : St) (size : Nat) (hi : Inv s) : Inv (reset size s) := by
  rcases reset_cases size s with ⟨h, _⟩ | ⟨w, hc, hcap, h⟩ | h <;> rw [h]
  · exact hi
  · have hf := hi.fits w hc
    refine ⟨hi.arenas, ?_, ?_⟩
    · intro w' hw' v hv ha
      cases hw'
      have := hi.below w hc v hv ha
      simp only; omega
    · intro w' hw'
      cases hw'
      exact ⟨hcap, hf.2⟩
  · refine ⟨fun v hv => Nat.lt_succ_of_lt (hi.arenas v hv), ?_, ?_⟩
    · intro w' hw' v hv ha
      cases hw'
      exact absurd ha (Nat.ne_of_lt (hi.arenas v hv))
    · intro w' hw'
      cases hw'
      exact ⟨Nat.le_max_left _ _, Nat.lt_succ_self _⟩

theorem reset_views (s : St) (size : Nat) : (reset size s).views = s.views := by
  rcases reset_cases size s with ⟨h, _⟩ | ⟨w, _, _, h⟩ | h <;> rw [h]

theorem take_cases (n e : Nat) (s : St) :
    take n e s = s ∨ ∃ w, s.cur = some w ∧ n + e ≤ w.len ∧
      take n e s = { s with cur := some { w with off := w.off + (n + e), len := w.len - (n + e), cap := w.cap - (n + e) },
                            views := ⟨w.arena, w.off, w.off + n⟩ :: s.views } := by
  unfold take
  cases hc : s.cur with
  | none => exact Or.inl rfl
  | some w =>
    by_cases h : n + e ≤ w.len
    · exact Or.inr ⟨w, rfl, h, by simp [h]⟩
    · exact Or.inl (by simp [h])

theorem take_views (s : St) (n e : Nat) : ∀ v ∈ s.views, v ∈ (take n e s).views := by
  intro v hv
  rcases take_cases n e s with h | ⟨w, _, _, h⟩ <;> rw [h]
  · exact hv
  · exact List.mem_cons_of_mem _ hv

theorem inv_take (s : St) (n e : Nat) (hi : Inv s) : Inv (take n e s) := by
  rcases take_cases n e s with h | ⟨w, hc, hn, h⟩ <;> rw [h]
  · exact hi
  · have hf := hi.fits w hc
    refine ⟨?_, ?_, ?_⟩
    · exact List.forall_mem_cons.mpr ⟨hf.2, hi.arenas⟩
    · intro w' hw' v hv ha
      cases hw'
      rcases List.mem_cons.mp hv with rfl | hv
      · simp only; omega
      · have := hi.below w hc v hv ha
        simp only; omega
    · intro w' hw'
      cases hw'
      exact ⟨by simp only; omega, hf.2⟩

theorem inv_step (s : St) (op : Op) (hi : Inv s) : Inv (step s op) := by
  cases op with
  | read size => exact inv_reset s size hi
  | take n e => exact inv_take s n e hi

theorem inv_run (ops : List Op) : ∀ s, Inv s → Inv (ops.foldl step s) := by
  induction ops with
  | nil => intro s h; exact h
  | cons o r ih => intro s h; exact ih _ (inv_step s o h)

/-- **C18.** For EVERY history of message reads (of any sizes: below, at and above the 4 KiB
    granule, chunks of skipped oversized messages, COPY data) and accessor calls, every view
    handed out at some point is disjoint from the memory written by every LATER read. -/
theorem C18_never_overwritten (before after : List Op) (size : Nat) :
    let s := before.foldl step {}
    let s' := after.foldl step s
    ∀ r, window (reset size s') = some r → ∀ v ∈ s.views, v.disjoint r := by
  intro s s' r hr v hv
  have hinv : Inv s' := inv_run after s (inv_run before {} inv_init)
  -- views are only ever added
  have hmono : ∀ (ops : List Op) (t : St), (∀ v ∈ t.views, v ∈ (ops.foldl step t).views) := by
    intro ops
    induction ops with
    | nil => intro t v h; exact h
    | cons o r ih =>
      intro t v h
      apply ih
      cases o with
      | read sz => simp only [step, reset_views]; exact h
      | take n e => exact take_views t n e v h
  exact C18_write_disjoint s' size hinv r hr v (hmono after s v hv)

/-- allocation: `reset` never asks `make` for more than max(size, 4096) bytes -/
theorem C18_alloc_bound (s : St) (size : Nat) :
    ∀ a ∈ (reset size s).allocs, a ∈ s.allocs ∨ a = max size granule := by
  intro a ha
  rcases reset_cases size s with ⟨h, _⟩ | ⟨w, _, _, h⟩ | h <;> rw [h] at ha
  · exact Or.inl ha
  · exact Or.inl ha
  · exact (List.mem_cons.mp ha).symm

/-- non-vacuity: sizes 10, 100, 3000, 1000, 5000 — the fourth message no longer fits behind
    the third (10+100+3000+1000 > 4096) and opens a new arena; 5000 another one -/
example :
    let s := [Op.read 10, .take 4 1, .read 100, .read 3000, .read 1000, .read 5000].foldl step {}
    s.nArenas = 3 ∧ s.cur = some { arena := 2, off := 0, len := 5000, cap := 5000 } ∧
    s.views = [{ arena := 0, lo := 0, hi := 4 }] := by decide

end Pw.Props.C18
