import Pw.Model.Serve
import Pw.Lemmas.Bytes
/-
  C10 — the message-size limit is enforced exactly and recoverably.
-/
namespace Pw.Props.C10

/-- a non-positive setting means the 16 MiB default -/
theorem C10_default (cfg : Int) (h : cfg ≤ 0) : effLimit cfg = 16777216 := by
  simp [effLimit, h, defaultBufferSize]

theorem C10_positive (cfg : Int) (h : 0 < cfg) : (effLimit cfg : Int) = cfg := by
  have : ¬ cfg ≤ 0 := by omega
  simp only [effLimit, this, if_false]
  omega

/-- the guard `size > Max || size < 0` on the declared length, for every 32-bit header value:
    exact at the boundary (L accepted, L+1 rejected), sub-minimum lengths rejected -/
theorem C10_verdict (L declared : Nat) :
    sizeVerdict L declared =
      if declared < 4 then .exceeded ((declared : Int) - 4)
      else if declared - 4 ≤ L then .ok (declared - 4)
      else .exceeded ((declared : Int) - 4) := by
  unfold sizeVerdict
  dsimp only
  by_cases h1 : declared < 4
  · rw [if_pos h1, if_pos (Or.inr (by omega))]
  · rw [if_neg h1]
    by_cases h2 : declared - 4 ≤ L
    · rw [if_pos h2, if_neg (by omega)]
      congr 1
      omega
    · rw [if_neg h2, if_pos (Or.inl (by omega))]

theorem readItem_header (L : Nat) (t : UInt8) (d : Nat) (r : Bytes) (hd : d < 4294967296) :
    readItem L (t :: (be32 d ++ r)) = readBody L t d r := by
  simp only [readItem, rd32_be32 _ hd]

theorem verdict_within {L n : Nat} (h : n ≤ L) : sizeVerdict L (n + 4) = .ok n := by
  rw [C10_verdict, if_neg (by omega), if_pos (by omega)]
  rfl

theorem verdict_beyond {L d : Nat} (h : d < 4 ∨ L + 4 < d) : sizeVerdict L d = .exceeded ((d : Int) - 4) := by
  rw [C10_verdict]
  split
  · rfl
  · rw [if_neg (by omega)]

theorem frame_append (t : UInt8) (body rest : Bytes) :
    frame t body ++ rest = t :: (be32 (body.length + 4) ++ (body ++ rest)) := by
  simp [frame]

/-- **accept**: a message whose body is at most L bytes is read completely and exactly; the
    stream behind it is untouched -/
theorem C10_accept (L : Nat) (t : UInt8) (body rest : Bytes)
    (h1 : body.length ≤ L) (h2 : body.length + 4 < 4294967296) :
    readItem L (frame t body ++ rest) = some (.msg t body, rest) := by
  rw [frame_append, readItem_header _ _ _ _ h2, readBody, verdict_within h1]
  simp

/-- **skip**: a message whose declared body exceeds L is never delivered as a message: it is
    reported as oversized with its declared size, the declared body is consumed IN FULL and the
    stream continues exactly at the following message -/
theorem C10_skip (L : Nat) (t : UInt8) (body rest : Bytes)
    (h1 : L < body.length) (h2 : body.length + 4 < 4294967296) :
    readItem L (frame t body ++ rest) = some (.big t body.length true, rest) := by
  have hsz : ((body.length + 4 : Nat) : Int) - 4 = (body.length : Int) := by omega
  rw [frame_append, readItem_header _ _ _ _ h2, readBody, verdict_beyond (Or.inr (by omega)), hsz]
  dsimp only
  rw [if_neg (by omega), Int.toNat_natCast, if_neg (by simp), List.drop_left]

/-- an oversized message whose body has not arrived completely yields no further item: the
    server keeps skipping (it never interprets the partial body) -/
theorem C10_skip_partial (L : Nat) (t : UInt8) (declared : Nat) (part : Bytes)
    (h0 : declared < 4294967296) (h1 : L + 4 < declared) (h2 : part.length + 4 < declared) :
    readItem L (t :: (be32 declared ++ part)) = some (.big t ((declared : Int) - 4) false, []) := by
  rw [readItem_header _ _ _ _ h0, readBody, verdict_beyond (Or.inr h1)]
  dsimp only
  rw [if_neg (by omega), if_pos (by omega)]

/-- **sub-minimum**: a declared length below 4 is rejected; no byte behind the header is read
    for it and no negative or wrapped size reaches a read -/
theorem C10_submin (L : Nat) (t : UInt8) (declared : Nat) (rest : Bytes) (h : declared < 4) :
    readItem L (t :: (be32 declared ++ rest)) = some (.big t ((declared : Int) - 4) true, rest) := by
  rw [readItem_header _ _ _ _ (by omega), readBody, verdict_beyond (Or.inl h)]
  exact if_pos (by omega)

/-- the report: SQLSTATE 54000, severity ERROR (non-fatal) -/
theorem C10_error_class (L : Nat) (size : Int) :
    (flatten (some (errSizeExceeded L size))).code = [53, 52, 48, 48, 48] ∧
    (flatten (some (errSizeExceeded L size))).severity = [69, 82, 82, 79, 82] :=
  -- both are literals in `errSizeExceeded` (only its text depends on `L` and `size`), and `flatten` copies them
  ⟨rfl, rfl⟩

/-- **report and continue (session)**: an oversized message is answered by exactly one
    ErrorResponse — followed by ReadyForQuery only when it was a simple Query outside a
    discarded batch — and the session goes on with the NEXT item, whatever it is -/
theorem C10_session_step (h : Handlers) (s : Sess) (t : UInt8) (size : Int) (rest : List Item)
    (hw : s.wleft = none) (hi : s.inp.items = .big t size true :: rest) :
    stepCommand h s =
      let s' := { s with inp := { s.inp with items := rest, msg := [] } }
      let e := BMsg.error (errorBody (flatten (some (errSizeExceeded s.inp.L size))))
      if t = ch 'Q' ∧ !s.discard then .cont { s' with out := .ready (ch 'I') :: e :: s.out }
      else .cont { s' with out := e :: s.out } := by
  simp only [stepCommand, Inp.next, hi, handleOversize, errorCode, sendError, Sess.send, hw, afterWrite]
  simp

/-- **startup**: an oversized first packet ends the connection without any reply -/
theorem C10_startup (cfg : Config) (h : Handlers) (inp tin : Bytes)
    (hx : readUntyped (effLimit cfg.L) inp = .exceeded) :
    (serve cfg h inp tin).msgs = [] ∧ (serve cfg h inp tin).ssl = none ∧
    (serve cfg h inp tin).ending = .closed ∧ (serve cfg h inp tin).ev = [] := by
  simp [serve, hx, finish]

/-! ### `Slurp`: the skip is done in chunks no larger than the limit -/

/-- sizes passed to `reset` by the loop of `Slurp(size)` -/
def slurpChunks (L : Nat) : Nat → Nat → List Nat
  | 0, _ => []
  | fuel + 1, remaining =>
    if remaining = 0 then [] else
    let reading := if remaining > L then L else remaining
    reading :: slurpChunks L fuel (remaining - reading)

theorem slurpChunks_le (L : Nat) : ∀ fuel n, ∀ c ∈ slurpChunks L fuel n, c ≤ L ∧ 0 < c ∨ L = 0 := by
  intro fuel n
  fun_induction slurpChunks L fuel n with
  | case1 => intro c hc; cases hc
  | case2 => intro c hc; cases hc
  | case3 fuel n h0 reading ih =>
    intro c hc
    rcases List.mem_cons.mp hc with rfl | hc
    · simp only [reading]
      split <;> omega
    · exact ih c hc

/-- with a positive limit, `n` iterations are enough and the chunks add up to exactly the
    declared size: the whole body is skipped, never more than `L` bytes buffered at once -/
theorem slurpChunks_sum (L : Nat) (hL : 0 < L) : ∀ fuel n, n ≤ fuel → (slurpChunks L fuel n).sum = n := by
  intro fuel n
  fun_induction slurpChunks L fuel n with
  | case1 => intro hn; exact (Nat.le_zero.mp hn).symm
  | case2 => intro _; rfl
  | case3 fuel n h0 reading ih =>
    intro hn
    have : reading ≤ n ∧ 0 < reading := by
      simp only [reading]
      split <;> omega
    rw [List.sum_cons, ih (by omega)]
    omega

/-- non-vacuity: L = 16, a 17-byte Query is skipped, the Sync behind it is the next item -/
example : deframe 16 (frame 81 (List.replicate 17 65) ++ frame 83 []) =
    [.big 81 17 true, .msg 83 []] := by decide

end Pw.Props.C10
