import Pw.Lemmas.Reach
/-
  C05 — Simple Query: ordered results, then exactly one ReadyForQuery; the result writer is a
  small state machine.  The writer theorems quantify over ALL handler programs (`Prog`).
-/
namespace Pw.Props.C05

def isRow : BMsg → Bool | .dataRow _ => true | _ => false
def isComplete : BMsg → Bool | .complete _ => true | _ => false
def isReady : BMsg → Bool | .ready _ => true | _ => false
def isErr : BMsg → Bool | .error _ => true | _ => false
def isRowOk : Event → Bool | .rowRes none => true | _ => false

/-! ### one-step behaviour of the writer operations -/

theorem dwRow_undelivered {d d' : DW} {s s' : Sess} {vals : List Val} {x : RowOut}
    (h : dwRow d s vals = (x, d', s')) (hx : x ≠ .res none) : d' = d ∧ s'.out = s.out ∧ s'.ev = s.ev := by
  revert h
  refine dwRow_cases (P := fun r => r = _ → _) d s vals ?_ ?_ ?_
  · rintro _ _ _ (rfl | rfl) h
    · cases h; exact ⟨rfl, rfl, rfl⟩
    · cases h; exact ⟨rfl, rfl, rfl⟩
  · intro _ _ _ h; cases h; exact ⟨rfl, rfl, rfl⟩
  · intro _ _ _ _ _ h; cases h; exact absurd rfl hx

/-- a wrong-arity or unencodable row, and any row after completion, emits nothing and is
    not counted -/
theorem C05_bad_row_silent (d : DW) (s : Sess) (vals : List Val) (e : OpErr) (d' : DW) (s' : Sess)
    (h : dwRow d s vals = (.res (some e), d', s')) :
    s'.out = s.out ∧ d'.written = d.written := by
  obtain ⟨rfl, ho, _⟩ := dwRow_undelivered h nofun
  exact ⟨ho, rfl⟩

theorem dwRow_closed (d : DW) (s : Sess) (vals : List Val) (h : d.closed = true) :
    dwRow d s vals = (.res (some (.lib errClosedWriter)), d, s) := by simp [dwRow, h]

/-- rows delivered since the statement function was entered (newest event first) -/
def rowsSince : List Event → Nat
  | [] => 0
  | .exec _ _ _ :: _ => 0
  | .rowRes none :: r => rowsSince r + 1
  | _ :: r => rowsSince r

/-- every `Written()` answer equals the number of rows delivered before it -/
def WOK : List Event → Prop
  | [] => True
  | .written n :: r => n = rowsSince r ∧ WOK r
  | _ :: r => WOK r

structure Facts (d : DW) (s s' : Sess) : Prop where
  rows : s'.out.countP isRow + s.ev.countP isRowOk = s.out.countP isRow + s'.ev.countP isRowOk
  written : d.written = rowsSince s.ev → WOK s.ev → WOK s'.ev
  closedSilent : d.closed = true → s'.out = s.out
  complete : s'.out.countP isComplete ≤ s.out.countP isComplete + (if d.closed then 0 else 1)
  ready : s'.out.countP isReady = s.out.countP isReady
  errs : s'.out.countP isErr = s.out.countP isErr

theorem isTDCG_not (m : BMsg) (h : isTDCG m = true) : isReady m = false ∧ isErr m = false := by
  cases m <;> first | exact ⟨rfl, rfl⟩ | cases h

theorem rowsSince_cons (e : Event) (r : List Event) (he : isCallback e = false) :
    rowsSince (e :: r) = rowsSince r + (if isRowOk e then 1 else 0) := by
  cases e with
  | exec => cases he
  | rowRes x => cases x <;> rfl
  | _ => rfl

theorem WOK_cons (e : Event) (r : List Event) : WOK (e :: r) ↔ (∀ n, e = .written n → n = rowsSince r) ∧ WOK r := by
  cases e <;> simp [WOK]

/-- One call of the writer or a reader, `(d, s) ↦ (d', s1)`, as far as `Facts` can see it: it
    delivered `rows` rows (0 or 1), wrote no other row and at most the one CommandComplete that
    closes the writer, and nothing at all if the writer was closed already. -/
structure Op (d d' : DW) (s s1 : Sess) (rows : Nat) : Prop where
  out : ∃ new, s1.out = new ++ s.out ∧ new.countP isRow = rows ∧ (d.closed = true → new = []) ∧
    new.countP isComplete + (if d'.closed then 0 else 1) ≤ (if d.closed then 0 else 1)
  ev : s1.ev = s.ev
  written : d'.written = d.written + rows
  closed : d.closed = true → d'.closed = true
  reach : Reach s s1

theorem Op.same {d d' : DW} {s s1 : Sess} (hc : d'.closed = d.closed) (hw : d'.written = d.written)
    (ho : s1.out = s.out) (he : s1.ev = s.ev) (hr : Reach s s1) : Op d d' s s1 0 :=
  ⟨⟨[], ho, rfl, fun _ => rfl, by rw [hc]; simp⟩, he, hw, fun h => by rw [hc]; exact h, hr⟩

theorem dwRow_op {d d' : DW} {s s' : Sess} {vals : List Val} {r : Option OpErr}
    (h : dwRow d s vals = (.res r, d', s')) : Op d d' s s' (if isRowOk (.rowRes r) then 1 else 0) := by
  have hr := dwRow_reach h
  revert h
  refine dwRow_cases (P := fun x => x = _ → _) d s vals ?_ ?_ ?_
  · rintro _ _ _ (rfl | rfl) h
    · cases h; exact .same rfl rfl rfl rfl hr
    · cases h; exact .same rfl rfl rfl rfl hr
  · intro _ _ _ h; cases h
  · intro f s1 hc _ hs h
    cases h
    obtain ⟨_, _, rfl⟩ := send_true hs
    exact ⟨⟨[.dataRow f], rfl, rfl, fun h => (by rw [hc] at h; cases h), by simp [isComplete, hc]⟩, rfl, rfl,
      fun h => (by rw [hc] at h; cases h), hr⟩

theorem dwComplete_op {d d' : DW} {s s' : Sess} {tag : Bytes} {r : Option OpErr}
    (h : dwComplete d s tag = (r, d', s')) : Op d d' s s' 0 := by
  have hr := dwComplete_reach h
  revert h
  refine dwComplete_cases (P := fun x => x = _ → _) d s tag ?_ ?_ ?_
  · intro _ h; cases h; exact .same rfl rfl rfl rfl hr
  · intro hc h
    cases h
    exact ⟨⟨[], rfl, rfl, fun _ => rfl, by simp [hc]⟩, rfl, rfl, fun _ => rfl, hr⟩
  · intro s1 hc hs h
    cases h
    obtain ⟨_, _, rfl⟩ := send_true hs
    exact ⟨⟨[.complete tag], rfl, rfl, fun h => (by rw [hc] at h; cases h), by simp [isComplete, hc]⟩, rfl, rfl,
      fun _ => rfl, hr⟩

theorem dwEmpty_op {d d' : DW} {s : Sess} {r : Option OpErr} (h : dwEmpty d = (r, d')) : Op d d' s s 0 := by
  revert h
  refine dwEmpty_cases (P := fun x => x = _ → _) d ?_ ?_
  · intro _ _ h; cases h; exact .same rfl rfl rfl rfl (.refl s)
  · intro hc _ h
    cases h
    exact ⟨⟨[], rfl, rfl, fun _ => rfl, by simp [hc]⟩, rfl, rfl, fun _ => rfl, .refl s⟩

theorem dwCopyIn_op {d d' : DW} {s s' : Sess} {fmt : Nat} {r : Option OpErr}
    (h : dwCopyIn d s fmt = (r, d', s')) : Op d d' s s' 0 := by
  have hr := dwCopyIn_reach h
  revert h
  refine dwCopyIn_cases (P := fun x => x = _ → _) d s fmt ?_ ?_
  · intro _ _ h; cases h; exact .same rfl rfl rfl rfl hr
  · intro s1 hc _ hs h
    cases h
    obtain ⟨_, _, rfl⟩ := send_true hs
    exact ⟨⟨[.copyIn (fmt % 256) d.cols.length], rfl, rfl, fun h => (by rw [hc] at h; cases h), by simp [isComplete]⟩,
      rfl, rfl, id, hr⟩

/-- composition: one call, its logged answer `e`, the rest of the run.  That no ReadyForQuery or
    ErrorResponse was written is a frame fact (`Reach`). -/
theorem Facts.after {d d' : DW} {s s1 s3 : Sess} {rows : Nat} {e : Event} (f : Facts d' (s1.log e) s3)
    (o : Op d d' s s1 rows) (he : isCallback e = false) (hrows : rows = if isRowOk e then 1 else 0)
    (hwr : match e with | .written n => n = d.written | _ => True) : Facts d s s3 := by
  obtain ⟨new, ho, hnr, hcl, hcomp⟩ := o.out
  have reach := o.reach.step e he (.refl _)
  obtain ⟨fr, fw, fc, fk, fready, ferrs⟩ := f
  simp only [Sess.log, ho, o.ev, List.countP_append, List.countP_cons] at fr fw fc fk
  refine ⟨by omega, fun a b => fw ?_ ?_, fun hc => ?_, by omega,
    by rw [fready, reach.count isReady fun m hm => (isTDCG_not m (isTDCG_of_isDCG m hm)).1],
    by rw [ferrs, reach.count isErr fun m hm => (isTDCG_not m (isTDCG_of_isDCG m hm)).2]⟩
  · rw [rowsSince_cons e s.ev he, o.written, a, hrows]
  · exact (WOK_cons e s.ev).mpr ⟨fun n hn => by subst hn; exact hwr.trans a, b⟩
  · rw [fc (o.closed hc), hcl hc]; rfl

theorem Facts.same {d : DW} {s s' : Sess} (ho : s'.out = s.out) (he : s'.ev = s.ev) : Facts d s s' :=
  ⟨by rw [ho, he], fun _ h => by rw [he]; exact h, fun _ => ho, by rw [ho]; split <;> omega, by rw [ho], by rw [ho]⟩

/-- the invariant behind all writer clauses, for every handler program -/
theorem runProg_facts : ∀ (p : Prog) (d : DW) (s : Sess), Facts d s (runProg p d s).2 := by
  intro p d s
  fun_induction runProg p d s with
  | case1 e d s => exact .same rfl rfl                                                -- ret
  | case2 n k d s ih =>                                                               -- note
    exact ih.after (Op.same rfl rfl rfl rfl (.refl s)) rfl rfl trivial
  | case3 vals k d s msg d' s' hrow =>                                                -- row, panic
    obtain ⟨_, ho, he⟩ := dwRow_undelivered hrow nofun
    exact .same ho he
  | case4 vals k d s r d' s' hrow ih =>                                               -- row
    exact ih.after (dwRow_op hrow) rfl rfl trivial
  | case5 tag k d s r d' s' hcomplete ih =>                                           -- complete
    exact ih.after (dwComplete_op hcomplete) rfl rfl trivial
  | case6 k d s r d' hempty ih => exact ih.after (dwEmpty_op hempty) rfl rfl trivial  -- empty
  | case7 k d s ih =>                                                                 -- written
    exact ih.after (Op.same rfl rfl rfl rfl (.refl s)) rfl rfl rfl
  | case8 fmt k d s r d' s' hcopyIn ih =>                                             -- copyIn
    exact ih.after (dwCopyIn_op hcopyIn) rfl rfl trivial
  | case9 k d s hcopy ih =>                                                           -- copyRead, no reader
    exact ih.after (Op.same rfl rfl rfl rfl (.refl s)) rfl rfl trivial
  | case10 k d s hcopy i hread => exact .same rfl rfl                                 -- copyRead, blocked
  | case11 k d s hcopy r i hread ih =>                                                -- copyRead
    exact ih.after (Op.same rfl rfl rfl rfl (.read i (copyRead_le hread) (.refl _))) rfl rfl trivial
  | case12 k d s hcopy ih =>                                                          -- binNew, no reader
    exact ih.after (Op.same rfl rfl rfl rfl (.refl s)) rfl rfl trivial
  | case13 k d s hcopy s1 ih =>                                                       -- binNew
    have hs1 : Reach s s1 ∧ s1.out = s.out ∧ s1.ev = s.ev := by
      simp only [s1]
      split
      · exact ⟨.refl s, rfl, rfl⟩
      · exact ⟨.markUnsup s, rfl, rfl⟩
    exact ih.after (Op.same rfl rfl hs1.2.1 hs1.2.2 hs1.1) rfl rfl trivial
  | case14 k d s hbin ih =>                                                           -- binRead, no reader
    exact ih.after (Op.same rfl rfl rfl rfl (.refl s)) rfl rfl trivial
  | case15 k d s b hbin b' i hread => exact .same rfl rfl                             -- binRead, blocked
  | case16 k d s b hbin r b' i hread ih =>                                            -- binRead
    exact ih.after (Op.same rfl rfl rfl rfl (.read i (binRead_le hread) (.refl _))) rfl rfl trivial

/-! ### the writer clauses of C05, for every handler program -/

/-- **rows**: the DataRows emitted are exactly the `Row` calls that returned success -/
theorem C05_rows_delivered (p : Prog) (d : DW) (s : Sess) :
    (runProg p d s).2.out.countP isRow + s.ev.countP isRowOk
      = s.out.countP isRow + (runProg p d s).2.ev.countP isRowOk := (runProg_facts p d s).rows

/-- **row counter**: every `Written()` answer observed by the handler equals the number of rows
    delivered so far by this statement execution -/
theorem C05_written (p : Prog) (cols : List ColDesc) (formats : List Nat) (s : Sess)
    (q : Bytes) (idx : Nat) (ps : List Param) (h : WOK s.ev) :
    WOK (runProg p { cols, formats } (s.log (.exec q idx ps))).2.ev := by
  apply (runProg_facts p _ _).written
  · simp [Sess.log, rowsSince]
  · simpa [Sess.log, WOK] using h

/-- **after completion** every operation fails without emitting a byte -/
theorem C05_after_completion_silent (p : Prog) (d : DW) (s : Sess) (h : d.closed = true) :
    (runProg p d s).2.out = s.out := (runProg_facts p d s).closedSilent h

/-- **completion** emits at most one CommandComplete, whatever the program does afterwards -/
theorem C05_one_complete (p : Prog) (d : DW) (s : Sess) :
    (runProg p d s).2.out.countP isComplete ≤ s.out.countP isComplete + 1 := by
  have := (runProg_facts p d s).complete
  split at this <;> omega

/-- a statement function can never emit ReadyForQuery -/
theorem C05_handler_no_ready (p : Prog) (d : DW) (s : Sess) :
    (runProg p d s).2.out.countP isReady = s.out.countP isReady := (runProg_facts p d s).ready

/-! ### the simple-query cycle -/

/-- the optional RowDescription, the `exec` event and the statement function -/
theorem stmt_adds {st : Stmt} {s s1 s3 : Sess} {e : Event} {p : Prog} {d : DW} {o : Outcome}
    (hd : (if st.cols.length = 0 then (s, true) else s.send (.rowDesc (colFormats [] st.cols))) = (s1, true))
    (hr : runProg p d (s1.log e) = (o, s3)) : ∃ body nev, Adds s s3 body nev ∧ ∀ m ∈ body, isTDCG m = true := by
  obtain ⟨new, nev, a, b, _⟩ := (runProg_reach p d (s1.log e)).adds
  rw [hr] at a
  have hb : ∀ pre, (∀ m ∈ pre, isTDCG m = true) → ∀ m ∈ new ++ [] ++ pre, isTDCG m = true := by
    intro pre hpre m hm
    simp only [List.append_nil, List.mem_append] at hm
    exact hm.elim (fun h => isTDCG_of_isDCG m (b m h)) (hpre m)
  split at hd
  · cases hd
    exact ⟨_, _, (Adds.refl s).trans ((Adds.log s e).trans a), hb [] (by simp)⟩
  · obtain ⟨w, hw, rfl⟩ := send_true hd
    exact ⟨_, _, (Adds.sent (new := [_]) hw).trans ((Adds.log _ e).trans a), hb [_] (by simp [isTDCG])⟩

/-- The statement loop of a simple query that goes on has added, newest first: ReadyForQuery, at
    most one ErrorResponse, and a `body` of row descriptions, rows, completions and CopyInResponses.
    This holds whether or not writes can fail: after a failed write the loop does not go on. -/
theorem runStatements_cycle (sts : List Stmt) (s s' : Sess) (hc : runStatements sts s = .cont s') :
    ∃ body nev, ∃ eb : Bool, ∃ b,
      Adds s s' (.ready (ch 'I') :: ((if eb then [BMsg.error b] else []) ++ body)) nev ∧
      ∀ m ∈ body, isTDCG m = true := by
  fun_induction runStatements sts s with
  | case1 s =>                                                 -- no statement left: ReadyForQuery
    obtain ⟨w, hw, rfl⟩ := send_cont_eq hc
    exact ⟨[], [], false, [], Adds.sent (new := [_]) hw, by simp⟩
  | case2 st rest s defined sDesc hdesc =>
    -- the RowDescription write failed, so does every later write: errorCode cannot go on
    simp only [defined] at hdesc
    split at hdesc
    · cases hdesc
    · exact absurd hc (errorCode_after_fail hdesc)
  | case3 => cases hc                                          -- the statement function blocked
  | case4 => cases hc                                          -- … or panicked
  | case5 st rest s defined sDesc hdesc sExec e sRan hrun =>   -- … or returned an error
    obtain ⟨body, nev, a, hb⟩ := stmt_adds hdesc hrun
    obtain ⟨w, hw, rfl⟩ := errorCode_cont_eq hc
    exact ⟨body, _, true, _, by simpa using a.trans (Adds.sent (new := [_, _]) hw), hb⟩
  | case6 st rest s defined sDesc hdesc sExec sRan hrun ih =>  -- … or is done: on to the rest
    obtain ⟨body, nev, a, hb⟩ := stmt_adds hdesc hrun
    obtain ⟨body2, nev2, eb, b, a2, hb2⟩ := ih hc
    exact ⟨body2 ++ body, _, eb, b, by simpa using a.trans a2,
      List.forall_mem_append.mpr ⟨hb2, hb⟩⟩

/-- **the simple-query cycle**, all of it: a Query that is answered and goes on has added either
    EmptyQueryResponse or the statements' `body`, then at most one ErrorResponse, then
    ReadyForQuery; the statement/portal maps and `discard` are untouched -/
theorem handleSimpleQuery_cycle (h : Handlers) (s s' : Sess) (hc : handleSimpleQuery h s = .cont s') :
    ∃ body nev, ∃ eb : Bool, ∃ b,
      Adds s s' (.ready (ch 'I') :: ((if eb then [BMsg.error b] else []) ++ body)) nev ∧
      ((∀ m ∈ body, isTDCG m = true) ∨ (body = [.emptyQuery] ∧ eb = false)) := by
  revert hc
  exact handleSimpleQuery_cases (P := fun st => st = .cont s' → _) h s
    (stop := fun _ => nofun)
    (blank := fun _ _ h1 hc => by
      obtain ⟨w1, hw1, rfl⟩ := send_true h1
      obtain ⟨w, hw, rfl⟩ := send_cont_eq hc
      exact ⟨[.emptyQuery], [], false, [], ⟨rfl, rfl, fun hn => hw (hw1 hn), rfl, rfl, rfl⟩, Or.inr ⟨rfl, rfl⟩⟩)
    (parseError := fun _ _ _ hc => by
      obtain ⟨w, hw, rfl⟩ := errorCode_cont_eq hc
      exact ⟨[], [_], true, _, ⟨rfl, rfl, hw, rfl, rfl, rfl⟩, Or.inl (by simp)⟩)
    (noStatement := fun _ _ _ hc => by
      obtain ⟨w, hw, rfl⟩ := errorCode_cont_eq hc
      exact ⟨[], [_], true, _, ⟨rfl, rfl, hw, rfl, rfl, rfl⟩, Or.inl (by simp)⟩)
    (statements := fun _ _ _ _ hc => by
      obtain ⟨body, nev, eb, b, a, hb⟩ := runStatements_cycle _ _ _ hc
      exact ⟨body, _, eb, b, by simpa using ((Adds.setMsg s _).trans (Adds.log _ _)).trans a, Or.inl hb⟩)

theorem cycle_counts {body : List BMsg} {eb : Bool}
    (hb : (∀ m ∈ body, isTDCG m = true) ∨ (body = [.emptyQuery] ∧ eb = false)) :
    body.countP isReady = 0 ∧ body.countP isErr = 0 := by
  rcases hb with hb | ⟨rfl, _⟩
  · exact ⟨List.countP_eq_zero.mpr fun m hm => by simp [(isTDCG_not m (hb m hm)).1],
      List.countP_eq_zero.mpr fun m hm => by simp [(isTDCG_not m (hb m hm)).2]⟩
  · exact ⟨rfl, rfl⟩

/-- **C05 (cycle).** Whenever a simple Query is answered and the session goes on, the answer
    contains exactly one ReadyForQuery and it is the last message of the cycle — for every query
    text, every parser result (error, zero, one, many statements) and every handler program. -/
theorem C05_cycle (h : Handlers) (s s' : Sess) (hc : handleSimpleQuery h s = .cont s') :
    s'.out.countP isReady = s.out.countP isReady + 1 ∧ s'.out.head? = some (.ready (ch 'I')) := by
  obtain ⟨body, nev, eb, b, a, hb⟩ := handleSimpleQuery_cycle h s s' hc
  rw [a.out]
  refine ⟨?_, rfl⟩
  cases eb <;> simp [List.countP_cons, List.countP_append, isReady, (cycle_counts hb).1]

/-- a blank query is answered without consulting the parser (no callback event at all) -/
theorem C05_blank_no_parse (h : Handlers) (s s' : Sess) (q rest : Bytes)
    (hq : getString s.inp.msg = some (q, rest)) (hb : isBlank q = true)
    (hc : handleSimpleQuery h s = .cont s') : s'.ev = s.ev := by
  simp only [handleSimpleQuery, hq, hb, if_true] at hc
  split at hc
  · cases hc
  · rename_i s1 h1
    obtain ⟨_, _, rfl⟩ := send_true h1
    obtain ⟨_, _, rfl⟩ := send_cont_eq hc
    rfl

/-- after a statement returns an error, no later statement of that query runs: the cycle
    continues with the ErrorResponse/ReadyForQuery pair only -/
theorem C05_error_stops (st : Stmt) (rest : List Stmt) (s s2 : Sess) (e : Err)
    (hcols : st.cols.length = 0)
    (hrun : runProg (st.body []) { cols := st.cols, formats := [] } (s.log (.exec st.q st.idx [])) = (.done (some e), s2)) :
    runStatements (st :: rest) s = errorCode s2 (some e) := by
  simp only [runStatements, hcols, if_true, hrun]

end Pw.Props.C05
