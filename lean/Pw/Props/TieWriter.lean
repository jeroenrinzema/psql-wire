import Pw.Generated.Trans
import Pw.Model.Writer
import Pw.Lemmas.Rt
/-
  pkg/buffer/writer.go as translated (`Trans.Writer_*`) against Model/Writer.lean (`Writer.start`, `add`, `finish`,
  `reset`).
-/
namespace Pw.Tie
open Pw.Go

/-- the model's view of a `buffer.Writer` -/
def absW (s : WriterS) : Pw.Writer := { frame := s.frame, err := s.err.isSome }

def setWriter (w : World) (s : WriterS) : World := { w with writer := s }

/-- bytes 1–4 of `putbuf` are never written: they are the zero placeholder of every frame -/
def PutbufOK (pb : Bytes) : Prop := ∃ x rest, pb = x :: 0 :: 0 :: 0 :: 0 :: rest

theorem putbuf_init : PutbufOK ({} : WriterS).putbuf := ⟨0, List.replicate 59 0, by decide⟩

theorem tie_Writer_Reset (w : World) :
    Trans.Writer_Reset w = .ok () (setWriter w { w.writer with frame := [], err := none }) := rfl

/-- `Start(t)` looks neither at the frame nor at the latch it finds -/
theorem tie_Writer_Start_eq (t : UInt8) (w : World) (hp : PutbufOK w.writer.putbuf) :
    Trans.Writer_Start t w =
      .ok () (setWriter w { frame := [t, 0, 0, 0, 0], putbuf := t :: w.writer.putbuf.tail, err := none }) := by
  obtain ⟨x, rest, hx⟩ := hp
  unfold Trans.Writer_Start
  rw [tie_Writer_Reset, Out.ok_bind]
  dsimp only [setWriter]
  rw [hx, arrSet_zero, chk_ok, arrSlice_0_5, chk_ok]
  rfl

theorem tie_Writer_Start (t : UInt8) (w : World) (hp : PutbufOK w.writer.putbuf) :
    ∃ s', Trans.Writer_Start t w = .ok () (setWriter w s') ∧ absW s' = Writer.start t (absW w.writer) ∧
      PutbufOK s'.putbuf := by
  refine ⟨_, tie_Writer_Start_eq t w hp, rfl, ?_⟩
  obtain ⟨x, rest, hx⟩ := hp
  exact ⟨t, rest, by rw [hx]; rfl⟩

/-! ### `Add*`: every one of them is `Writer.add` of the bytes it appends -/

/-- `Add*` on the writer's state: nothing while the latch is set, otherwise the bytes are appended -/
def addS (b : Bytes) (s : WriterS) : WriterS :=
  if s.err ≠ none then s else { s with frame := s.frame ++ b, err := none }

theorem absW_addS (b : Bytes) (s : WriterS) : absW (addS b s) = Writer.add b (absW s) := by
  obtain ⟨f, p, e⟩ := s
  cases e <;> simp [addS, absW, Writer.add]

theorem addS_putbuf (b : Bytes) (s : WriterS) : (addS b s).putbuf = s.putbuf := by
  unfold addS; split <;> rfl

/-- the body every `Add*` translates to; `r0`, `r1` are what it returns with the latch set / clear.  The
    translated functions are instances up to unfolding (`AddInt16/32` after evaluating `PutUint16/32` on the
    scratch slice), which is how the six equations below are proved. -/
theorem add_shape {α} (b : Bytes) (r0 r1 : α) (w : World) :
    (if w.writer.err ≠ none then Out.ok r0 w
     else .ok r1 { w with writer := { frame := w.writer.frame ++ b, putbuf := w.writer.putbuf, err := none } }) =
      .ok (if w.writer.err ≠ none then r0 else r1) (setWriter w (addS b w.writer)) := by
  unfold addS setWriter
  split <;> rfl

theorem tie_Writer_AddByte_eq (b : UInt8) (w : World) :
    Trans.Writer_AddByte b w = .ok () (setWriter w (addS [b] w.writer)) := add_shape [b] () () w

theorem tie_Writer_AddNullTerminate_eq (w : World) :
    Trans.Writer_AddNullTerminate w = .ok () (setWriter w (addS [0] w.writer)) := add_shape [0] () () w

theorem tie_Writer_AddBytes_eq (b : Bytes) (w : World) :
    Trans.Writer_AddBytes b w =
      .ok (if w.writer.err ≠ none then 0 else (b.length : Int)) (setWriter w (addS b w.writer)) :=
  add_shape b 0 (b.length : Int) w

theorem tie_Writer_AddString_eq (b : Bytes) (w : World) :
    Trans.Writer_AddString b w =
      .ok (if w.writer.err ≠ none then 0 else (b.length : Int)) (setWriter w (addS b w.writer)) :=
  add_shape b 0 (b.length : Int) w

/-- `AddInt16(i)` appends the big-endian two's-complement encoding of `i` (`uint16(i)`) -/
theorem tie_Writer_AddInt16_eq (i : Int) (w : World) :
    Trans.Writer_AddInt16 i w =
      .ok (if w.writer.err ≠ none then 0 else 2) (setWriter w (addS (be16 (toU16 i)) w.writer)) :=
  add_shape (be16 (toU16 i)) 0 2 w

theorem tie_Writer_AddInt32_eq (i : Int) (w : World) :
    Trans.Writer_AddInt32 i w =
      .ok (if w.writer.err ≠ none then 0 else 4) (setWriter w (addS (be32 (toU32 i)) w.writer)) :=
  add_shape (be32 (toU32 i)) 0 4 w

theorem tie_Writer_AddByte (b : UInt8) (w : World) :
    ∃ s', Trans.Writer_AddByte b w = .ok () (setWriter w s') ∧ absW s' = Writer.add [b] (absW w.writer) ∧
      s'.putbuf = w.writer.putbuf :=
  ⟨_, tie_Writer_AddByte_eq b w, absW_addS _ _, addS_putbuf _ _⟩

theorem tie_Writer_AddNullTerminate (w : World) :
    ∃ s', Trans.Writer_AddNullTerminate w = .ok () (setWriter w s') ∧ absW s' = Writer.add [0] (absW w.writer) ∧
      s'.putbuf = w.writer.putbuf :=
  ⟨_, tie_Writer_AddNullTerminate_eq w, absW_addS _ _, addS_putbuf _ _⟩

theorem tie_Writer_AddBytes (b : Bytes) (w : World) :
    ∃ s' n, Trans.Writer_AddBytes b w = .ok n (setWriter w s') ∧ absW s' = Writer.add b (absW w.writer) ∧
      s'.putbuf = w.writer.putbuf :=
  ⟨_, _, tie_Writer_AddBytes_eq b w, absW_addS _ _, addS_putbuf _ _⟩

theorem tie_Writer_AddString (b : Bytes) (w : World) :
    ∃ s' n, Trans.Writer_AddString b w = .ok n (setWriter w s') ∧ absW s' = Writer.add b (absW w.writer) ∧
      s'.putbuf = w.writer.putbuf :=
  ⟨_, _, tie_Writer_AddString_eq b w, absW_addS _ _, addS_putbuf _ _⟩

theorem tie_Writer_AddInt16 (i : Int) (w : World) :
    ∃ s' n, Trans.Writer_AddInt16 i w = .ok n (setWriter w s') ∧
      absW s' = Writer.add (be16 (toU16 i)) (absW w.writer) ∧ s'.putbuf = w.writer.putbuf :=
  ⟨_, _, tie_Writer_AddInt16_eq i w, absW_addS _ _, addS_putbuf _ _⟩

theorem tie_Writer_AddInt32 (i : Int) (w : World) :
    ∃ s' n, Trans.Writer_AddInt32 i w = .ok n (setWriter w s') ∧
      absW s' = Writer.add (be32 (toU32 i)) (absW w.writer) ∧ s'.putbuf = w.writer.putbuf :=
  ⟨_, _, tie_Writer_AddInt32_eq i w, absW_addS _ _, addS_putbuf _ _⟩

/-- `End` with the latch set: nothing is written, the error is returned, the frame is reset -/
theorem tie_Writer_End_err (e : Err) (w : World) (he : w.writer.err = some e) :
    Trans.Writer_End w = .ok (some e) (setWriter w { w.writer with frame := [], err := none }) ∧
    Writer.finish (absW w.writer) = some (none, (absW w.writer).reset) := by
  constructor
  · unfold Trans.Writer_End Trans.Writer_Error
    simp [Out.bind, he, tie_Writer_Reset, setWriter]
  · simp [Writer.finish, absW, he]

/-- `End` of a started frame: bytes 1–4 are back-patched with `len − 1` and the frame goes to the
    connection in ONE `Write` — exactly the bytes `Writer.finish` computes; then the frame is reset -/
theorem tie_Writer_End_ok (w : World) (t p1 p2 p3 p4 : UInt8) (body : Bytes)
    (hf : w.writer.frame = t :: p1 :: p2 :: p3 :: p4 :: body) (he : w.writer.err = none)
    (hl : w.writer.frame.length < 4294967296) :
    ∃ out, Writer.finish (absW w.writer) = some (some out, (absW w.writer).reset) ∧
      out = t :: be32 (w.writer.frame.length - 1) ++ body ∧
      Trans.Writer_End w =
        (connWrite out (setWriter w { w.writer with frame := out })).bind fun r w' =>
          .ok r.2 (setWriter w' { w'.writer with frame := [], err := none }) := by
  refine ⟨t :: be32 (w.writer.frame.length - 1) ++ body, ?_, rfl, ?_⟩
  · simp [Writer.finish, absW, he, hf]
  · -- `bytes[1:5]` and `bytes[0]` are in bounds because the frame has its five header bytes; `uint32(len − 1)` is
    -- `len − 1` by `hl`
    unfold Trans.Writer_End Trans.Writer_Error
    rw [Out.ok_bind, he, if_neg (by simp)]
    dsimp only
    rw [hf] at hl ⊢
    rw [arrSlice_1_5, chk_ok, bePutUint32_four, chk_ok, u32_pred _ (by simp) hl, arrPatch_1_4, arrIndex_zero]
    rfl

end Pw.Tie
