import Pw.Model.Conc
import Pw.Lemmas.ListCount
/-
  C16 — Close is graceful, final, idempotent and concurrency-safe.
-/
namespace Pw.Props.C16
open Pw.Conc

structure Inv (s : St) : Prop where
  -- `close(srv.closer)` has run once if `closing` is set and not at all if it is not: the critical section
  -- of Close does both or neither
  chan : s.chanCloses = if s.closing then 1 else 0
  -- the wait group counts the handlers that are running, and Serve's helper goroutine until its `wg.Done`
  wg : s.wg = running s + (if s.helperDone then 0 else 1)
  -- the helper gets to its `wg.Done` only through the closed channel
  helper : s.helperDone = true → s.closing = true
  -- a Close call that has left its critical section has left `closing` set
  closers : ∀ c ∈ s.closers, c ≠ .start → s.closing = true

theorem inv_init (nc nw : Nat) : Inv (init nc nw) := by
  refine ⟨rfl, ?_, by simp [init], ?_⟩
  · simp [init, running, List.count_replicate]
  · intro c hc hne
    simp [init] at hc
    exact absurd hc.2 hne

theorem count_set_running (ws : List WPc) (j : Nat) (old new : WPc) (h : ws[j]? = some old) :
    (ws.set j new).count .running + (if old = .running then 1 else 0)
      = ws.count .running + (if new = .running then 1 else 0) := by
  simpa [List.count] using countP_set_add (· == WPc.running) ws j old new h

/-- the invariant is preserved by every enabled step of every thread -/
theorem inv_step (a : Act) (s s' : St) (hi : Inv s) (hs : step a s = some s') : Inv s' := by
  obtain ⟨hc, hw, hh, hcl⟩ := hi
  revert hs
  fun_cases step a s
  case case4 | case5 | case9 | case11 => nofun   -- not enabled
  case case1 i hci hcg =>
    -- Close finds `closing` set
    intro hs; cases hs
    exact ⟨hc, hw, hh, fun _ _ _ => hcg⟩
  case case2 i hci hcg =>
    -- Close sets `closing` and closes the channel
    intro hs; cases hs
    rw [Bool.not_eq_true] at hcg
    exact ⟨by simp [hc, hcg], hw, fun _ => rfl, fun _ _ _ => rfl⟩
  case case3 i hci hz =>
    -- `wg.Wait` returns
    intro hs; cases hs
    exact ⟨hc, hw, hh, forall_mem_set hcl i fun _ => hcl .waiting (List.mem_of_getElem? hci) (by decide)⟩
  case case6 j hwj hcg =>
    -- admit refuses
    intro hs; cases hs
    have := count_set_running s.workers j .start .refused hwj
    simp at this
    exact ⟨hc, by simp only [running] at hw ⊢; omega, hh, hcl⟩
  case case7 j hwj hcg =>
    -- admit counts the command in
    intro hs; cases hs
    have := count_set_running s.workers j .start .running hwj
    simp at this
    exact ⟨hc, by simp only [running] at hw ⊢; omega, hh, hcl⟩
  case case8 j hwj =>
    -- a handler finishes
    intro hs; cases hs
    have := count_set_running s.workers j .running .finished hwj
    simp at this
    exact ⟨hc, by simp only [running] at hw ⊢; omega, hh, hcl⟩
  case case10 he =>
    -- the helper sees the closed channel, so `closing` is set
    intro hs; cases hs
    have hnd : s.helperDone = false := by simpa using he.2
    have hcg : s.closing = true := by
      cases h : s.closing with
      | true => rfl
      | false => rw [h] at hc; simp at hc; omega
    refine ⟨hc, ?_, fun _ => hcg, hcl⟩
    simp only [running, hnd] at hw ⊢
    simp at hw ⊢
    omega

/-- every state reachable by any schedule of any number of closers and workers satisfies the
    invariant -/
theorem inv_run (sched : List Act) : ∀ s, Inv s → Inv (run sched s) :=
  run_preserves step inv_step sched

/-- **never a double close**: the closer channel is closed at most once, however many
    goroutines call Close concurrently and however their steps interleave -/
theorem C16_no_double_close (nc nw : Nat) (sched : List Act) :
    (run sched (init nc nw)).chanCloses ≤ 1 := by
  have := (inv_run sched _ (inv_init nc nw)).chan
  split at this <;> omega

/-- **Close waits**: a Close call can only return in a state in which no admitted handler is
    still running (and the listener has been closed) -/
theorem C16_waits (s s' : St) (i : Nat) (hi : Inv s) (hpc : s.closers[i]? = some .waiting)
    (hs : step (.closer i) s = some s') : running s = 0 ∧ s.helperDone = true := by
  simp only [step, hpc] at hs
  by_cases hz : s.wg = 0
  · have := hi.wg
    rw [hz] at this
    constructor
    · omega
    · by_cases hd : s.helperDone = true
      · exact hd
      · simp [hd] at this
  · simp [hz] at hs

/-- **Close is final**: once any Close call has returned, no command is admitted any more:
    every later admission attempt is refused, on every connection -/
theorem C16_final (s s' : St) (j : Nat) (hi : Inv s) (hret : CPc.returned ∈ s.closers)
    (hpc : s.workers[j]? = some .start) (hs : step (.worker j) s = some s') :
    s'.workers[j]? = some .refused ∧ running s' = running s := by
  have hcg : s.closing = true := hi.closers .returned hret (by decide)
  simp only [step, hpc, hcg, if_true, Option.some.injEq] at hs
  subst hs
  have hlt : j < s.workers.length := by
    rcases List.getElem?_eq_some_iff.mp hpc with ⟨h, _⟩; exact h
  refine ⟨by simp [hlt], ?_⟩
  have := count_set_running s.workers j .start .refused hpc
  simp at this
  simp only [running]; omega

/-- `closing` is never reset -/
theorem closing_mono (a : Act) (s s' : St) (hs : step a s = some s') (hc : s.closing = true) : s'.closing = true := by
  revert hs
  fun_cases step a s
  case case4 | case5 | case9 | case11 => nofun   -- not enabled
  -- the only step that writes `closing` sets it
  case case2 => intro hs; cases hs; rfl
  all_goals intro hs; cases hs; exact hc

/-- **no deadlock**: as long as some Close call has not returned, some thread can take a step -/
theorem C16_no_deadlock (s : St) (hi : Inv s)
    (hpend : ∃ (i : Nat) (pc : CPc), s.closers[i]? = some pc ∧ pc ≠ CPc.returned) :
    ∃ a, (step a s).isSome = true := by
  obtain ⟨i, pc, hpc, hne⟩ := hpend
  cases pc with
  | returned => exact absurd rfl hne
  | start =>
    by_cases hcg : s.closing = true
    · exact ⟨.closer i, by simp [step, hpc, hcg]⟩
    · simp only [Bool.not_eq_true] at hcg
      exact ⟨.closer i, by simp [step, hpc, hcg]⟩
  | waiting =>
    have hcg : s.closing = true := hi.closers .waiting (List.mem_of_getElem? hpc) (by decide)
    by_cases hz : s.wg = 0
    · exact ⟨.closer i, by simp [step, hpc, hz]⟩
    · -- some handler is running, or the helper has not run yet
      by_cases hd : s.helperDone = true
      · have hw := hi.wg
        simp only [hd, if_true, Nat.add_zero] at hw
        have hpos : 0 < s.workers.count .running := by simp only [running] at hw; omega
        have hmem : WPc.running ∈ s.workers := List.count_pos_iff.mp hpos
        obtain ⟨j, hj, hjv⟩ := List.getElem_of_mem hmem
        have : s.workers[j]? = some .running := by simp [hj, hjv]
        exact ⟨.worker j, by simp [step, this]⟩
      · have hch := hi.chan
        simp only [hcg, if_true] at hch
        simp only [Bool.not_eq_true] at hd
        exact ⟨.helper, by simp [step, hch, hd]⟩

/-- non-vacuity: two closers and two workers under a schedule where the second closer enters
    while the first is waiting and a worker races the closing transition -/
example :
    let s := run [.worker 0, .closer 0, .closer 1, .worker 1, .helper, .closer 0, .worker 0, .closer 0, .closer 1]
      (init 2 2)
    s.chanCloses = 1 ∧ s.closers = [.returned, .returned] ∧ s.workers = [.finished, .refused] ∧ s.wg = 0 := by decide

end Pw.Props.C16
