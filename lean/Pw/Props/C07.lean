import Pw.Lemmas.Frame
/-
  C07 — statement and portal names resolve to the latest definition, per connection.
-/
namespace Pw.Props.C07

theorem lookup_store_same {α} (n : Bytes) (v : α) (m : List (Bytes × α)) :
    lookup n (store n v m) = some v := by rw [lookup_store, if_pos rfl]

theorem lookup_store_other {α} (n n' : Bytes) (v : α) (m : List (Bytes × α)) (h : n' ≠ n) :
    lookup n' (store n v m) = lookup n' m := by rw [lookup_store, if_neg h]

theorem lookup_remove_same {α} (n : Bytes) (m : List (Bytes × α)) : lookup n (remove n m) = none := by
  rw [lookup_remove, if_pos rfl]

theorem lookup_remove_other {α} (n n' : Bytes) (m : List (Bytes × α)) (h : n' ≠ n) :
    lookup n' (remove n m) = lookup n' m := by rw [lookup_remove, if_neg h]

/-- the abstract view, which the harness's generator keeps as well (`NameSpec`): a name map is a partial
    function from names -/
def abs {α} (m : List (Bytes × α)) : Bytes → Option α := fun n => lookup n m

/-- re-using a name (the unnamed one included) replaces the earlier definition for every
    subsequent use and touches no other name -/
theorem C07_store_refines {α} (n : Bytes) (v : α) (m : List (Bytes × α)) :
    abs (store n v m) = fun k => if k = n then some v else abs m k :=
  funext fun k => lookup_store k n v m

/-- Close makes exactly that name unresolvable -/
theorem C07_remove_refines {α} (n : Bytes) (m : List (Bytes × α)) :
    abs (remove n m) = fun k => if k = n then none else abs m k :=
  funext fun k => lookup_remove k n m

/-- Parse defines (or redefines) the statement name and never touches a portal: a portal bound
    earlier keeps the statement it was bound to -/
theorem C07_parse (h : Handlers) (s s' : Sess) (hc : handleParse h s = .cont s') :
    s'.portals = s.portals ∧
    (s'.stmts = s.stmts ∨ ∃ name st, s'.stmts = store name st s.stmts) := by
  -- the failing-message path leaves both maps alone
  have failing : ∀ {s1 : Sess} {e : Option Err}, s1.portals = s.portals → s1.stmts = s.stmts →
      extendedError s1 e = .cont s' → s'.portals = s.portals ∧ (s'.stmts = s.stmts ∨ ∃ name st, s'.stmts = store name st s.stmts) := by
    intro s1 e hp hst hc
    obtain ⟨_, _, rfl⟩ := extendedError_cont_eq hc
    exact ⟨hp, Or.inl hst⟩
  revert hc
  exact handleParse_cases (P := fun st => st = .cont s' → _) h s
    (stop := fun _ => nofun)
    (parseError := fun _ _ _ _ => failing rfl rfl)
    (noStatement := fun _ _ _ _ => failing rfl rfl)
    (stored := fun _ _ _ _ hc => by                     -- under the name
      obtain ⟨_, _, rfl⟩ := send_cont_eq hc
      exact ⟨rfl, Or.inr ⟨_, _, rfl⟩⟩)
    (several := fun _ _ _ _ _ _ => failing rfl rfl)

/-- Bind attaches the portal to the statement CURRENTLY stored under the given name, together
    with this Bind's parameters and result formats (a snapshot: the statement value itself) -/
theorem C07_bind (s s' : Sess) (pname sname r1 r2 r3 : Bytes) (params : List Param) (rf : List Nat) (st : Stmt)
    (h1 : getString s.inp.msg = some (pname, r1)) (h2 : getString r1 = some (sname, r2))
    (h3 : decodeBindTail r2 = some (params, rf, r3)) (hk : lookup sname s.stmts = some st)
    (hc : handleBind s = .cont s') :
    s'.stmts = s.stmts ∧
    lookup pname s'.portals = some { stmt := st, params := params, formats := rf } ∧
    ∀ other, other ≠ pname → lookup other s'.portals = lookup other s.portals := by
  simp only [handleBind, h1, h2, h3, Sess.setMsg, hk] at hc
  obtain ⟨w, _, rfl⟩ := send_cont_eq hc
  exact ⟨rfl, lookup_store_same _ _ _, fun other ho => lookup_store_other _ _ _ _ ho⟩

/-- Execute runs the statement the portal was bound to, with that Bind's parameters and result
    formats — whatever has happened to the statement NAME since -/
theorem C07_execute (s : Sess) (name r1 r2 : Bytes) (lim : Nat) (p : Portal)
    (h1 : getString s.inp.msg = some (name, r1)) (h2 : getU32 r1 = some (lim, r2))
    (hk : lookup name s.portals = some p) :
    handleExecute s =
      match runProg (p.stmt.body p.params) { cols := p.stmt.cols, formats := p.formats }
              ((s.setMsg r2).log (.exec p.stmt.q p.stmt.idx p.params)) with
      | (.blocked, s) => .stop s .waiting
      | (.panicked msg, s) => extendedError s (some (.base (ascii "unexpected panic: " ++ msg)))
      | (.done (some e), s) => extendedError s (some e)
      | (.done none, s) => .cont s := by
  have hk' : lookup name (s.setMsg r2).portals = some p := by simpa [Sess.setMsg] using hk
  simp only [handleExecute, h1, h2, hk']
  rfl

/-- non-vacuity of the map laws on a concrete history: define a, rebind a, close b -/
example : lookup [97] (store [97] 2 (store [98] 9 (store [97] 1 []))) = some 2 ∧
    lookup [98] (remove [98] (store [97] 2 (store [98] 9 []))) = none ∧
    lookup [97] (remove [98] (store [97] 2 (store [98] 9 []))) = some 2 := by decide

end Pw.Props.C07
