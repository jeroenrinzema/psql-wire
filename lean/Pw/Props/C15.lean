import Pw.Model.Session
/-
  C15 — concurrent connections are isolated.

  The model of one connection (`serve`, `loop`, `stepCommand`) takes the server configuration
  and the handlers as VALUES and owns everything it mutates (reader state, statement and
  portal maps, discard flag, output).  A server with N connections is therefore a product of N
  such machines that share no mutable component; the theorem below is the noninterference
  statement for ANY interleaving of their steps.  That the Go code has the same shape (no
  unsynchronised shared write: per-connection type map, cloned parameter map, per-connection
  caches, no Server-field writes outside construction) is tied by pinned facts, the race
  detector and the solo-versus-concurrent differential campaign.
-/
namespace Pw.Props.C15

/-- one connection between two commands: still running, or ended -/
inductive Conn where
  | running (s : Sess)
  | ended (s : Sess) (e : End)

/-- one scheduling step of a connection: process the next command -/
def connStep (h : Handlers) : Conn → Conn
  | .running s => match stepCommand h s with
    | .cont s' => .running s'
    | .stop s' e => .ended s' e
  | c => c

def iter {α} (f : α → α) : Nat → α → α
  | 0, a => a
  | k + 1, a => iter f k (f a)

theorem iter_succ' {α} (f : α → α) (k : Nat) (a : α) : iter f (k + 1) a = f (iter f k a) := by
  induction k generalizing a with
  | zero => rfl
  | succ k ih => simp only [iter] at ih ⊢; rw [ih]

theorem loop_eq_iterate (h : Handlers) : ∀ (fuel : Nat) (s : Sess),
    (match iter (connStep h) fuel (.running s) with
     | .running s' => (s', End.waiting)
     | .ended s' e => (s', e)) = loop h fuel s := by
  intro fuel
  induction fuel with
  | zero => intro s; simp [loop, iter]
  | succ n ih =>
    intro s
    simp only [iter, loop, connStep]
    cases hs : stepCommand h s with
    | cont s' => simp only; exact ih s'
    | stop s' e =>
      simp only
      have : ∀ k, iter (connStep h) k (.ended s' e) = .ended s' e := by
        intro k; induction k with
        | zero => rfl
        | succ k ihk => simp [iter, connStep, ihk]
      rw [this]

/-- a server with `n` connections: every scheduling step advances exactly one of them -/
def runSched {n : Nat} (h : Handlers) (sched : List (Fin n)) (st : Fin n → Conn) : Fin n → Conn :=
  sched.foldl (fun st i => fun j => if j = i then connStep h (st j) else st j) st

/-- nothing about `f` is used: the isolation of connections is the shape of `runSched` -/
theorem sched_independent {ι α : Type} [DecidableEq ι] (f : α → α) (sched : List ι) :
    ∀ (st : ι → α) (i : ι),
      sched.foldl (fun st i => fun j => if j = i then f (st j) else st j) st i =
        iter f (sched.count i) (st i) := by
  induction sched with
  | nil => intro st i; rfl
  | cons a rest ih =>
    intro st i
    rw [List.foldl_cons, ih]
    by_cases hia : i = a
    · subst hia
      simp [iter]
    · have : a ≠ i := fun e => hia e.symm
      simp [hia, this]

/-- **C15 (noninterference).** For any number of connections and ANY interleaving of their
    steps, the state (transcript, callback trace, name maps, fate) of connection `i` is what `i`
    reaches when served alone with the same number of its own steps: no connection can observe
    or alter another one. -/
theorem C15_noninterference {n : Nat} (h : Handlers) (sched : List (Fin n)) :
    ∀ (st : Fin n → Conn) (i : Fin n),
      runSched h sched st i = iter (connStep h) (sched.count i) (st i) :=
  sched_independent (connStep h) sched

/-- with enough steps each connection's result is exactly its solo command loop -/
theorem C15_solo_equivalence {n : Nat} (h : Handlers) (sched : List (Fin n)) (s0 : Fin n → Sess) (i : Fin n) :
    (match runSched h sched (fun j => .running (s0 j)) i with
     | .running s' => (s', End.waiting)
     | .ended s' e => (s', e)) = loop h (sched.count i) (s0 i) := by
  rw [C15_noninterference]
  exact loop_eq_iterate h _ _

end Pw.Props.C15
