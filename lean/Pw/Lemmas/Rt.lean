import Pw.Go.Rt
/-
  Lemmas about the run-time library `Pw/Go/Rt.lean`, with which the tie files step through translated code.
-/
namespace Pw.Go

theorem Out.ok_bind {α β} (a : α) (w : World) (k : α → World → Out β) : (Out.ok a w).bind k = k a w := rfl
theorem Out.bind_ok {α} (o : Out α) : (o.bind fun a w => .ok a w) = o := by cases o <;> rfl
theorem chk_ok {α β} (a : α) (k : α → Out β) : chk (.ok a) k = k a := rfl

theorem i64_id (x : Int) (h0 : -9223372036854775808 ≤ x) (h1 : x < 9223372036854775808) : i64 x = x := by
  unfold i64; omega
theorem u32_id (x : Int) (h0 : 0 ≤ x) (h1 : x < 4294967296) : u32 x = x := by unfold u32; omega

theorem be32val_lt (x y z t : UInt8) : be32val x y z t < 4294967296 := by
  have := x.toNat_lt; have := y.toNat_lt; have := z.toNat_lt; have := t.toNat_lt
  unfold be32val; omega

theorem beUint32_cons (x y z t : UInt8) (r : Bytes) :
    beUint32 (x :: y :: z :: t :: r) = .ok ((be32val x y z t : Nat) : Int) := rfl
theorem beUint16_cons (x y : UInt8) (r : Bytes) :
    beUint16 (x :: y :: r) = .ok ((x.toNat * 256 + y.toNat : Nat) : Int) := rfl

/-- the model's `rd32` is `binary.BigEndian.Uint32` -/
theorem rd32_cons (x y z t : UInt8) (r : Bytes) : rd32 (x :: y :: z :: t :: r) = some (be32val x y z t, r) := rfl

theorem rd32_none {m : Bytes} : rd32 m = none ↔ m.length < 4 := by
  rcases m with _ | ⟨a, _ | ⟨b, _ | ⟨c, _ | ⟨d, r⟩⟩⟩⟩ <;> simp [rd32]

theorem rd32_some {m r : Bytes} {v : Nat} :
    rd32 m = some (v, r) ↔ ∃ a b c d, m = a :: b :: c :: d :: r ∧ v = be32val a b c d := by
  constructor
  · intro h
    rcases m with _ | ⟨a, _ | ⟨b, _ | ⟨c, _ | ⟨d, r'⟩⟩⟩⟩
    · cases h
    · cases h
    · cases h
    · cases h
    · cases h; exact ⟨a, b, c, d, rfl, rfl⟩
  · rintro ⟨a, b, c, d, rfl, rfl⟩; rfl

/-! the index and slice expressions of writer.go (`putbuf[0] = t`, `putbuf[:5]`, `bytes[1:5]`, `bytes[0]`) on an
    array whose first cells are named: in bounds -/
theorem arrSet_zero (x b : UInt8) (r : Bytes) : arrSet (x :: r) 0 b = .ok (b :: r) := by
  unfold arrSet
  rw [if_neg (by rw [List.length_cons]; omega)]
  rfl

theorem arrIndex_zero (x : UInt8) (r : Bytes) : arrIndex (x :: r) 0 = .ok x := by
  unfold arrIndex
  rw [if_neg (by rw [List.length_cons]; omega)]
  rfl

theorem arrSlice_0_5 (a b c d e : UInt8) (r : Bytes) :
    arrSlice (a :: b :: c :: d :: e :: r) 0 5 = .ok [a, b, c, d, e] := by
  unfold arrSlice
  rw [if_neg (by simp only [List.length_cons]; omega)]
  rfl

theorem arrSlice_1_5 (a b c d e : UInt8) (r : Bytes) :
    arrSlice (a :: b :: c :: d :: e :: r) 1 5 = .ok [b, c, d, e] := by
  unfold arrSlice
  rw [if_neg (by simp only [List.length_cons]; omega)]
  rfl

theorem bePutUint32_four (a b c d : UInt8) (v : Int) : bePutUint32 [a, b, c, d] v = .ok (be32 v.toNat) := rfl

theorem arrPatch_1_4 (a b c d e : UInt8) (r : Bytes) (n : Nat) :
    arrPatch (a :: b :: c :: d :: e :: r) (Int.toNat 1) (be32 n) = a :: (be32 n ++ r) := rfl

/-- `uint32(len - 1)` does not wrap -/
theorem u32_pred (n : Nat) (h0 : 0 < n) (h : n < 4294967296) : (u32 (i64 ((n : Int) - 1))).toNat = n - 1 := by
  unfold u32 i64; omega

theorem ioReadFull_enough (n : Nat) (w : World) (h : n ≤ w.src.length) :
    ioReadFull n w = .ok (w.src.take n, (n : Int), none) { w with src := w.src.drop n } := by
  unfold ioReadFull
  by_cases h0 : n = 0
  · subst h0; rfl
  · rw [if_neg h0, if_pos h]

theorem ioReadFull_short (n : Nat) (w : World) (h : w.src.length < n) :
    ioReadFull n w =
      match w.fin with
      | .wait => .block
      | .rerr => .ok (w.src, (w.src.length : Int), some .readErr) { w with src := [] }
      | .eof => .ok (w.src, (w.src.length : Int), some (if w.src = [] then .eof else .unexpectedEOF))
          { w with src := [] } := by
  unfold ioReadFull
  rw [if_neg (by omega), if_neg (by omega)]
  rfl

theorem ioReadFullArr_enough (a : Bytes) (w : World) (hn : a.length ≤ w.src.length) :
    ioReadFullArr a w = .ok (w.src.take a.length, (a.length : Int), none) { w with src := w.src.drop a.length } := by
  unfold ioReadFullArr
  rw [ioReadFull_enough _ _ hn, Out.ok_bind]
  simp [List.length_take, Nat.min_eq_left hn]

theorem ioReadFullArr_short (a : Bytes) (w : World) (hn : w.src.length < a.length) :
    ioReadFullArr a w =
      match w.fin with
      | .wait => .block
      | .rerr => .ok (w.src ++ a.drop w.src.length, (w.src.length : Int), some .readErr) { w with src := [] }
      | .eof => .ok (w.src ++ a.drop w.src.length, (w.src.length : Int),
          some (if w.src = [] then .eof else .unexpectedEOF)) { w with src := [] } := by
  unfold ioReadFullArr
  rw [ioReadFull_short _ _ hn]
  cases w.fin <;> rfl

end Pw.Go
