import Pw.Model.Backend
import Pw.Lemmas.Bytes
/-  Round-trip lemmas: the strict grammar parser inverts every builder (used by `C02_roundtrip`). -/
namespace Pw

theorem ofU32_toU32 (i : Int) (h1 : -2147483648 ≤ i) (h2 : i < 2147483648) : ofU32 (toU32 i) = i := by
  unfold ofU32 toU32
  split <;> omega

theorem ofU16_toU16 (i : Int) (h1 : -32768 ≤ i) (h2 : i < 32768) : ofU16 (toU16 i) = i := by
  unfold ofU16 toU16
  split <;> omega

theorem toU32_lt (i : Int) : toU32 i < 4294967296 := by unfold toU32; omega
theorem toU16_lt (i : Int) : toU16 i < 65536 := by unfold toU16; omega

structure ColDesc.WF (c : ColDesc) : Prop where
  name : nulFree c.name
  table : -2147483648 ≤ c.table ∧ c.table < 2147483648
  attr : -32768 ≤ c.attrNo ∧ c.attrNo < 32768
  oid : c.oid < 4294967296
  width : -32768 ≤ c.width ∧ c.width < 32768

/-- well-formedness of a structured backend message: exactly what the wire format can carry -/
def BMsg.WF : BMsg → Prop
  | .auth s => s < 4294967296
  | .paramStatus k v => nulFree k ∧ nulFree v
  | .error b => (parseErrFields (b.length + 1) b).isSome
  | .rowDesc cols => cols.length < 65536 ∧ ∀ c ∈ cols, c.1.WF ∧ c.2 < 65536
  | .dataRow fs => fs.length < 65536 ∧ ∀ f ∈ fs, ∀ v, f = some v → v.length < 2147483648
  | .complete t => nulFree t
  | .paramDesc oids => oids.length < 65536 ∧ ∀ o ∈ oids, o < 4294967296
  | .copyIn f n => f < 256 ∧ n < 65536
  | _ => True

theorem parseColDescs_enc (cols : List (ColDesc × Nat)) (h : ∀ c ∈ cols, c.1.WF ∧ c.2 < 65536) :
    parseColDescs cols.length (cols.flatMap encCol) = some cols := by
  induction cols with
  | nil => simp [parseColDescs]
  | cons c cs ih =>
    obtain ⟨cd, f⟩ := c
    obtain ⟨hc, hcs⟩ := List.forall_mem_cons.mp h
    obtain ⟨⟨hn, ht, ha, ho, hw⟩, hf⟩ := hc
    simp only [List.length_cons, List.flatMap_cons, encCol, encColDesc, parseColDescs, List.append_assoc,
      Option.bind_eq_bind, Option.bind_some, Option.pure_def, cstr_append'' _ hn, rd32_be32 _ (toU32_lt _),
      rd16_be16 _ (toU16_lt _), rd32_be32 _ ho, rd16_be16 _ hf, ih hcs]
    simp [ofU32_toU32 _ ht.1 ht.2, ofU16_toU16 _ ha.1 ha.2, ofU16_toU16 _ hw.1 hw.2]

theorem parseFields_enc (fs : List (Option Bytes))
    (h : ∀ f ∈ fs, ∀ v, f = some v → v.length < 2147483648) :
    parseFields fs.length (fs.flatMap encField) = some fs := by
  induction fs with
  | nil => simp [parseFields]
  | cons f fs ih =>
    obtain ⟨hf, hfs⟩ := List.forall_mem_cons.mp h
    cases f with
    | none =>
      simp only [List.length_cons, List.flatMap_cons, encField, parseFields]
      rw [rd32_be32 _ (toU32_lt _)]
      simp [toU32, ih hfs]
    | some v =>
      have hv := hf v rfl
      simp only [List.length_cons, List.flatMap_cons, encField, parseFields, List.append_assoc]
      rw [rd32_be32 _ (by omega)]
      have h1 : ¬ v.length = 4294967295 := by omega
      have h2 : ¬ v.length ≥ 2147483648 := by omega
      simp [h1, h2, ih hfs]

theorem parseOids_enc (oids : List Nat) (h : ∀ o ∈ oids, o < 4294967296) :
    parseOids oids.length (oids.flatMap be32) = some oids := by
  induction oids with
  | nil => simp [parseOids]
  | cons o os ih =>
    obtain ⟨ho, hos⟩ := List.forall_mem_cons.mp h
    simp only [List.length_cons, List.flatMap_cons, parseOids]
    rw [rd32_be32 _ ho]
    simp [ih hos]

theorem parseFmts_replicate (n f : Nat) (hf : f < 65536) :
    parseFmts n (List.replicate n (be16 f)).flatten = some (List.replicate n f) := by
  induction n with
  | zero => simp [parseFmts]
  | succ n ih =>
    simp only [List.replicate_succ, List.flatten_cons, parseFmts]
    rw [rd16_be16 _ hf]
    simp [ih]

end Pw
