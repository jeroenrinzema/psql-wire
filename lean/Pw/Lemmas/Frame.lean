import Pw.Model.Session
/-  Frame facts.  The COPY readers (`copyRead`, `binFill`, …, `binRead`) are functions on the input
    component `Inp` only: by their types they can neither write to the client nor log an event nor
    touch the statement/portal maps.  What remains is what one `Write` does to the session, and with
    it the writer operations and the paths that end a command; and the branches of `handleCommand` and
    of the handler of each message, as case principles. -/
namespace Pw

/-! ### the name maps: `lookup`, `store`, `remove` -/

theorem lookup_cons {α} (k a : Bytes) (v : α) (m : List (Bytes × α)) :
    lookup k ((a, v) :: m) = if a = k then some v else lookup k m := rfl

theorem remove_cons {α} (n k : Bytes) (v : α) (m : List (Bytes × α)) :
    remove n ((k, v) :: m) = if k = n then remove n m else (k, v) :: remove n m := by
  by_cases hk : k = n <;> simp [remove, hk]

theorem lookup_remove {α} (k n : Bytes) (m : List (Bytes × α)) :
    lookup k (remove n m) = if k = n then none else lookup k m := by
  induction m with
  | nil => simp [remove, lookup]
  | cons kv m ih =>
    obtain ⟨a, v⟩ := kv
    rw [remove_cons, lookup_cons]
    by_cases ha : a = n
    · subst ha
      rw [if_pos rfl, ih]
      by_cases hk : k = a
      · simp only [if_pos hk]
      · simp only [if_neg hk, if_neg (Ne.symm hk)]
    · rw [if_neg ha, lookup_cons, ih]
      by_cases hak : a = k
      · simp only [if_pos hak, if_neg (fun e => ha (hak.trans e))]
      · simp only [if_neg hak]

theorem lookup_store {α} (k n : Bytes) (v : α) (m : List (Bytes × α)) :
    lookup k (store n v m) = if k = n then some v else lookup k m := by
  unfold store
  rw [lookup_cons, lookup_remove]
  by_cases hk : k = n
  · simp only [if_pos hk.symm, if_pos hk]
  · simp only [if_neg (Ne.symm hk), if_neg hk]

theorem mem_remove {α} (n : Bytes) (m : List (Bytes × α)) (x : Bytes × α) :
    x ∈ remove n m ↔ x ∈ m ∧ x.1 ≠ n := by
  simp [remove, List.mem_filter]

theorem mem_store {α} (n : Bytes) (v : α) (m : List (Bytes × α)) (x : Bytes × α) :
    x ∈ store n v m ↔ x = (n, v) ∨ (x ∈ m ∧ x.1 ≠ n) := by
  simp [store, mem_remove]

theorem lookup_mem {α} {n : Bytes} {v : α} : ∀ {m : List (Bytes × α)}, lookup n m = some v → (n, v) ∈ m
  | (k, x) :: m, h => by
    rw [lookup_cons] at h
    split at h
    · rename_i hk
      cases h
      exact hk ▸ List.mem_cons_self ..
    · exact List.mem_cons_of_mem _ (lookup_mem h)

/-! ### one `Write`, and the paths that end a command by writing -/

/-- An equation on the whole session: after `obtain ⟨w, hw, rfl⟩` every field of the new one is
    known by `rfl`. -/
theorem send_true {s s1 : Sess} {m : BMsg} (h : s.send m = (s1, true)) :
    ∃ w, (s.wleft = none → w = none) ∧ s1 = { s with out := m :: s.out, wleft := w } := by
  unfold Sess.send at h
  split at h
  · cases h
  · rename_i n hn
    cases h
    exact ⟨some n, fun h' => (by rw [hn] at h'; cases h'), rfl⟩
  · cases h
    exact ⟨s.wleft, id, rfl⟩

theorem send_false {s s1 : Sess} {m : BMsg} (h : s.send m = (s1, false)) : s1 = s ∧ s.wleft = some 0 := by
  unfold Sess.send at h
  split at h
  · rename_i h0
    cases h
    exact ⟨rfl, h0⟩
  · cases h
  · cases h

theorem send_inp {s s1 : Sess} {m : BMsg} {ok : Bool} (h : s.send m = (s1, ok)) : s1.inp = s.inp := by
  cases ok with
  | true => obtain ⟨w, _, rfl⟩ := send_true h; rfl
  | false => rw [(send_false h).1]

theorem afterWrite_cont {x : Sess × Bool} {s' : Sess} (h : afterWrite x = .cont s') : x = (s', true) := by
  rcases x with ⟨s1, ok⟩
  cases ok with
  | false => cases h
  | true => cases h; rfl

theorem send_cont_eq {s s' : Sess} {m : BMsg} (h : afterWrite (s.send m) = .cont s') :
    ∃ w, (s.wleft = none → w = none) ∧ s' = { s with out := m :: s.out, wleft := w } :=
  send_true (afterWrite_cont h)

theorem extendedError_cont_eq {s s' : Sess} {e : Option Err} (h : extendedError s e = .cont s') :
    ∃ w, (s.wleft = none → w = none) ∧
      s' = { s with discard := true, out := .error (errorBody (flatten e)) :: s.out, wleft := w } :=
  send_cont_eq h

theorem errorCode_cont_eq {s s' : Sess} {e : Option Err} (h : errorCode s e = .cont s') :
    ∃ w, (s.wleft = none → w = none) ∧
      s' = { s with out := .ready (ch 'I') :: .error (errorBody (flatten e)) :: s.out, wleft := w } := by
  unfold errorCode at h
  split at h
  · cases h
  · rename_i s1 h1
    obtain ⟨w1, hw1, rfl⟩ := send_true h1
    obtain ⟨w, hw, rfl⟩ := send_cont_eq h
    exact ⟨w, fun hn => hw (hw1 hn), rfl⟩

theorem errorCode_after_fail {s s1 s' : Sess} {m : BMsg} {e : Option Err}
    (hf : s.send m = (s1, false)) : errorCode s1 e ≠ .cont s' := by
  obtain ⟨rfl, hw⟩ := send_false hf
  intro h
  simp [errorCode, sendError, Sess.send, hw] at h

/-! ### the writer operations, with the branches that behave alike taken together -/

theorem encodeRow_ok (formats : List Nat) : ∀ (cols : List ColDesc) (vals : List Val) (i : Nat) (fields : List (Option Bytes)),
    encodeRow formats i cols vals = .ok fields →
    fields.length = min cols.length vals.length ∧
    ∀ k (hk : k < cols.length) (hv : k < vals.length),
      ∃ f, fields[k]? = some f ∧ encodeVal (cols[k]).oid (formatFor formats (i + k)) (vals[k]) = .ok f := by
  intro cols vals i fields h
  fun_induction encodeRow formats i cols vals generalizing fields with
  | case1 => cases h; exact ⟨by simp, fun k hk => absurd hk (Nat.not_lt_zero k)⟩
  | case2 => cases h; exact ⟨by simp, fun k _ hv => absurd hv (Nat.not_lt_zero k)⟩
  | case3 => cases h                                      -- encode error
  | case4 => cases h                                      -- panic
  | case5 => cases h                                      -- unsupported
  | case6 i c cs v vs f he fs hr ih =>                    -- field `f`, then the fields `fs`
    cases h
    obtain ⟨hl, hf⟩ := ih fs hr
    refine ⟨by simp only [List.length_cons, hl]; omega, fun k hk hv => ?_⟩
    cases k with
    | zero => exact ⟨f, rfl, he⟩
    | succ k =>
      obtain ⟨g, hg1, hg2⟩ := hf k (Nat.lt_of_succ_lt_succ hk) (Nat.lt_of_succ_lt_succ hv)
      rw [Nat.add_right_comm, Nat.add_assoc] at hg2
      exact ⟨g, hg1, hg2⟩
  | case7 i c cs v vs f he hne ih => exact absurd h (hne fields)   -- the rest of the row failed

/-- the errors the result writer itself reports -/
inductive WriterErr : OpErr → Prop
  | closed : WriterErr (.lib errClosedWriter)
  | arity (ncols nvals : Nat) : WriterErr (.lib (errArity ncols nvals))
  | encode : WriterErr .pgxEnc
  | dataWritten : WriterErr (.lib errDataWritten)
  | noColumns : WriterErr (.lib errNoColumns)
  | write : WriterErr (.lib errWrite)

/-- `dataWriter.Row`: every failure leaves the writer alone, and the session too but for the `unsup`
    mark. -/
theorem dwRow_cases {P : RowOut × DW × Sess → Prop} (d : DW) (s : Sess) (vals : List Val)
    (err : ∀ e s', WriterErr e → s' = s ∨ s' = s.markUnsup → P (.res (some e), d, s'))
    (panic : ∀ f, d.closed = false → encodeRow d.formats 0 d.cols vals = .panic f →
      P (.panic (panicText f), d, s))
    (ok : ∀ fields s', d.closed = false → encodeRow d.formats 0 d.cols vals = .ok fields →
      s.send (.dataRow fields) = (s', true) → P (.res none, { d with written := d.written + 1 }, s')) :
    P (dwRow d s vals) := by
  fun_cases dwRow d s vals
  case case1 => exact err _ _ .closed (Or.inl rfl)
  case case2 => exact err _ _ (.arity _ _) (Or.inl rfl)
  case case3 => exact err _ _ .encode (Or.inr rfl)            -- unsupported value
  case case4 => exact err _ _ .encode (Or.inl rfl)            -- encode error
  case case5 hc _ f he => exact panic f (by simpa using hc) he
  case case6 hc _ fields he s' hs => exact ok fields s' (by simpa using hc) he hs
  case case7 s' hs => exact err _ _ .write (Or.inl (send_false hs).1)

theorem dwComplete_cases {P : Option OpErr × DW × Sess → Prop} (d : DW) (s : Sess) (tag : Bytes)
    (closed : d.closed = true → P (some (.lib errClosedWriter), d, s))
    (failed : d.closed = false → P (some (.lib errWrite), { d with closed := true }, s))
    (ok : ∀ s', d.closed = false → s.send (.complete tag) = (s', true) →
      P (none, { d with closed := true }, s')) :
    P (dwComplete d s tag) := by
  fun_cases dwComplete d s tag
  case case1 hc => exact closed hc
  case case2 hc _ s' hs => exact ok s' (by simpa using hc) hs
  case case3 hc _ s' hs => rw [(send_false hs).1]; exact failed (by simpa using hc)

theorem dwCopyIn_cases {P : Option OpErr × DW × Sess → Prop} (d : DW) (s : Sess) (fmt : Nat)
    (err : ∀ e, WriterErr e → P (some e, d, s))
    (ok : ∀ s', d.closed = false → d.cols.length ≠ 0 →
      s.send (.copyIn (fmt % 256) d.cols.length) = (s', true) →
      P (none, { d with copy := true }, s'.setMsg [])) :
    P (dwCopyIn d s fmt) := by
  fun_cases dwCopyIn d s fmt
  case case1 => exact err _ .closed
  case case2 => exact err _ .noColumns
  case case3 hc hn s' hs => exact ok s' (by simpa using hc) hn hs
  case case4 s' hs => rw [(send_false hs).1]; exact err _ .write

theorem dwEmpty_cases {P : Option OpErr × DW → Prop} (d : DW)
    (err : ∀ e, WriterErr e → P (some e, d))
    (ok : d.closed = false → d.written = 0 → P (none, { d with closed := true })) : P (dwEmpty d) := by
  fun_cases dwEmpty d
  case case1 => exact err _ .closed
  case case2 => exact err _ .dataWritten
  case case3 hc hw => exact ok (by simpa using hc) (by simpa using hw)

/-! ### the dispatch of `handleCommand` -/

theorem handleCommand_sync (h : Handlers) (s : Sess) :
    handleCommand h (ch 'S') s = afterWrite ({ s with discard := false }.send (.ready (ch 'I'))) := by
  unfold handleCommand
  rw [if_neg (by simp), if_neg (by decide), if_neg (by decide), if_neg (by decide), if_neg (by decide),
    if_pos rfl]

theorem handleCommand_terminate (h : Handlers) (s : Sess) :
    handleCommand h (ch 'X') s =
      match h.terminate with | none => .stop s .closed | some _ => .stop (s.log .terminate) .closed := by
  unfold handleCommand
  rw [if_neg (by simp), if_neg (by decide), if_neg (by decide), if_neg (by decide), if_neg (by decide),
    if_neg (by decide), if_neg (by decide), if_neg (by decide), if_neg (by decide), if_neg (by decide),
    if_pos rfl]
  rfl

/-- One premise per branch of the dispatch, each with what is known there.  The conditions are
    decided by `by_cases` and rewritten with `if_pos`/`if_neg`: `split` would compare each condition
    with every hypothesis gathered so far up to unfolding `ch`, which is two orders of magnitude
    slower on this chain. -/
theorem handleCommand_cases {P : UInt8 → Step → Prop} (h : Handlers) (t : UInt8) (s : Sess)
    (skip : s.discard = true → t ≠ ch 'S' → t ≠ ch 'X' → P t (.cont s))
    (query : s.discard = false → P (ch 'Q') (handleSimpleQuery h s))
    (execute : s.discard = false → P (ch 'E') (handleExecute s))
    (parse : s.discard = false → P (ch 'P') (handleParse h s))
    (describe : s.discard = false → P (ch 'D') (handleDescribe s))
    (sync : P (ch 'S') (afterWrite ({ s with discard := false }.send (.ready (ch 'I')))))
    (bind : s.discard = false → P (ch 'B') (handleBind s))
    (noop : s.discard = false → t = ch 'H' ∨ t = ch 'd' ∨ t = ch 'c' ∨ t = ch 'f' → P t (.cont s))
    (close : s.discard = false → P (ch 'C') (handleClose s))
    (terminate : h.terminate = none → P (ch 'X') (.stop s .closed))
    (terminateHook : ∀ ok, h.terminate = some ok → P (ch 'X') (.stop (s.log .terminate) .closed))
    (unknown : s.discard = false →
      (t ≠ ch 'X' ∧ t ≠ ch 'S' ∧ t ≠ ch 'H' ∧ t ≠ ch 'd' ∧ t ≠ ch 'c' ∧ t ≠ ch 'f' ∧ t ≠ ch 'Q' ∧
        t ≠ ch 'P' ∧ t ≠ ch 'B' ∧ t ≠ ch 'D' ∧ t ≠ ch 'C' ∧ t ≠ ch 'E') →
      P t (errorCode s (some (errUnimplemented t)))) :
    P t (handleCommand h t s) := by
  by_cases hS : t = ch 'S'
  · subst hS; rw [handleCommand_sync]; exact sync
  by_cases hX : t = ch 'X'
  · subst hX
    rw [handleCommand_terminate]
    cases ht : h.terminate with
    | none => exact terminate ht
    | some ok => exact terminateHook ok ht
  unfold handleCommand
  by_cases h0 : s.discard = true ∧ t ≠ ch 'S' ∧ t ≠ ch 'X'
  · rw [if_pos h0]; exact skip h0.1 h0.2.1 h0.2.2
  rw [if_neg h0]
  have hd : s.discard = false := by
    cases hdv : s.discard with
    | false => rfl
    | true => exact absurd ⟨hdv, hS, hX⟩ h0
  by_cases hQ : t = ch 'Q'
  · subst hQ; rw [if_pos rfl]; exact query hd
  rw [if_neg hQ]
  by_cases hE : t = ch 'E'
  · subst hE; rw [if_pos rfl]; exact execute hd
  rw [if_neg hE]
  by_cases hP : t = ch 'P'
  · subst hP; rw [if_pos rfl]; exact parse hd
  rw [if_neg hP]
  by_cases hD : t = ch 'D'
  · subst hD; rw [if_pos rfl]; exact describe hd
  rw [if_neg hD, if_neg hS]
  by_cases hB : t = ch 'B'
  · subst hB; rw [if_pos rfl]; exact bind hd
  rw [if_neg hB]
  by_cases hH : t = ch 'H'
  · rw [if_pos hH]; exact noop hd (Or.inl hH)
  rw [if_neg hH]
  by_cases hdcf : t = ch 'd' ∨ t = ch 'c' ∨ t = ch 'f'
  · rw [if_pos hdcf]; exact noop hd (Or.inr hdcf)
  rw [if_neg hdcf]
  by_cases hC : t = ch 'C'
  · subst hC; rw [if_pos rfl]; exact close hd
  rw [if_neg hC, if_neg hX]
  exact unknown hd ⟨hX, hS, hH, fun e => hdcf (Or.inl e), fun e => hdcf (Or.inr (Or.inl e)),
    fun e => hdcf (Or.inr (Or.inr e)), hQ, hP, hB, hD, hC, hE⟩

/-! ### the handlers of one message, one named premise per branch

  `stop` takes together the branches that close the connection at once: the body does not decode, or
  a write before the last one of the reply fails.  The session is then `s` but for the position in
  the message (a failed write changes nothing, `send_false`; `s.setMsg s.inp.msg` is `s`).  Every
  other premise gives the decoding equations of its branch, then what decides the branch; the decoded
  values are implicit arguments.  Describe and Close read their kind byte with `getBytes 1`; their
  premises say `s.inp.msg = kind :: r1`, which is the same (`getBytes1`). -/

theorem getBytes1 {m d r : Bytes} (h : getBytes 1 m = some (d, r)) : m = d.headD 0 :: r := by
  unfold getBytes at h
  split at h
  · cases h
  · cases h
    cases m with
    | nil => simp at *
    | cons k r => simp

theorem handleSimpleQuery_cases {P : Step → Prop} (h : Handlers) (s : Sess)
    (stop : ∀ r, P (.stop (s.setMsg r) .closed))
    (blank : ∀ {q rest s1}, getString s.inp.msg = some (q, rest) → isBlank q = true →
      (s.setMsg rest).send .emptyQuery = (s1, true) → P (afterWrite (s1.send (.ready (ch 'I')))))
    (parseError : ∀ {q rest e}, getString s.inp.msg = some (q, rest) → isBlank q = false → h.parse q = .error e →
      P (errorCode ((s.setMsg rest).log (.parse q)) (some e)))
    (noStatement : ∀ {q rest}, getString s.inp.msg = some (q, rest) → isBlank q = false → h.parse q = .ok [] →
      P (errorCode ((s.setMsg rest).log (.parse q)) (some errUndefinedStatement)))
    (statements : ∀ {q rest sts}, getString s.inp.msg = some (q, rest) → isBlank q = false → h.parse q = .ok sts →
      sts ≠ [] → P (runStatements (labelStmts q sts) ((s.setMsg rest).log (.parse q)))) :
    P (handleSimpleQuery h s) := by
  fun_cases handleSimpleQuery h s
  case case1 => exact stop s.inp.msg                                   -- no query string
  case case2 q rest hg _ hb s1 hs => rw [(send_false hs).1]; exact stop rest   -- EmptyQueryResponse not written
  case case3 q rest hg _ hb s1 hs => exact blank hg hb hs
  case case4 q rest hg _ hb _ e hp => exact parseError hg (by simpa using hb) hp
  case case5 q rest hg _ hb _ hp => exact noStatement hg (by simpa using hb) hp
  case case6 q rest hg _ hb _ sts h0 hp => exact statements hg (by simpa using hb) hp h0

theorem handleParse_cases {P : Step → Prop} (h : Handlers) (s : Sess)
    (stop : ∀ r, P (.stop (s.setMsg r) .closed))
    (parseError : ∀ {name r1 q r2 n r3 e}, getString s.inp.msg = some (name, r1) → getString r1 = some (q, r2) →
      getU16 r2 = some (n, r3) → h.parse q = .error e → P (extendedError ((s.setMsg r3).log (.parse q)) (some e)))
    (noStatement : ∀ {name r1 q r2 n r3}, getString s.inp.msg = some (name, r1) → getString r1 = some (q, r2) →
      getU16 r2 = some (n, r3) → h.parse q = .ok [] →
      P (extendedError ((s.setMsg r3).log (.parse q)) (some errUndefinedStatement)))
    (stored : ∀ {name r1 q r2 n r3 st}, getString s.inp.msg = some (name, r1) → getString r1 = some (q, r2) →
      getU16 r2 = some (n, r3) → h.parse q = .ok [st] →
      P (afterWrite ({ (s.setMsg r3).log (.parse q) with
        stmts := store name { st with q := q, idx := 0 } s.stmts }.send .parseComplete)))
    (several : ∀ {name r1 q r2 n r3 sts}, getString s.inp.msg = some (name, r1) → getString r1 = some (q, r2) →
      getU16 r2 = some (n, r3) → h.parse q = .ok sts → sts ≠ [] → (∀ st, sts ≠ [st]) →
      P (extendedError ((s.setMsg r3).log (.parse q)) (some errMultipleCommands))) :
    P (handleParse h s) := by
  fun_cases handleParse h s
  case case1 => exact stop s.inp.msg                                   -- no statement name
  case case2 => exact stop _                                           -- no query text
  case case3 => exact stop _                                           -- no parameter-type count
  case case4 name r1 hg q r2 hg2 n r3 hn _ _ e hp => exact parseError hg hg2 hn hp
  case case5 name r1 hg q r2 hg2 n r3 hn _ _ hp => exact noStatement hg hg2 hn hp
  case case6 name r1 hg q r2 hg2 n r3 hn _ _ st hp _ => exact stored hg hg2 hn hp
  case case7 name r1 hg q r2 hg2 n r3 hn _ _ sts h0 h1 hp => exact several hg hg2 hn hp h0 h1

theorem handleDescribe_cases {P : Step → Prop} (s : Sess)
    (stop : ∀ r, P (.stop (s.setMsg r) .closed))
    (unknownStatement : ∀ {r1 name r2}, s.inp.msg = ch 'S' :: r1 → getString r1 = some (name, r2) →
      lookup name s.stmts = none → P (extendedError (s.setMsg r2) (some (.base (ascii "unknown statement")))))
    (statement : ∀ {r1 name r2 st s1}, s.inp.msg = ch 'S' :: r1 → getString r1 = some (name, r2) →
      lookup name s.stmts = some st → (s.setMsg r2).send (.paramDesc st.params) = (s1, true) →
      P (afterWrite (describeCols s1 [] st.cols)))
    (unknownPortal : ∀ {r1 name r2}, s.inp.msg = ch 'P' :: r1 → getString r1 = some (name, r2) →
      lookup name s.portals = none → P (extendedError (s.setMsg r2) (some (.base (ascii "unknown portal")))))
    (portal : ∀ {r1 name r2 p}, s.inp.msg = ch 'P' :: r1 → getString r1 = some (name, r2) →
      lookup name s.portals = some p → P (afterWrite (describeCols (s.setMsg r2) p.formats p.stmt.cols)))
    (unknownKind : ∀ {kind r1 name r2}, s.inp.msg = kind :: r1 → getString r1 = some (name, r2) →
      kind ≠ ch 'S' → kind ≠ ch 'P' →
      P (extendedError (s.setMsg r2) (some (.base (ascii "unknown describe command: " ++ quoteByte kind))))) :
    P (handleDescribe s) := by
  fun_cases handleDescribe s
  case case1 => exact stop s.inp.msg                                   -- no kind byte
  case case2 => exact stop _                                           -- no name
  case case3 d r1 hg name r2 hg2 _ kind hk hl => exact unknownStatement (hk ▸ getBytes1 hg) hg2 hl
  case case4 d r1 hg name r2 hg2 _ kind hk st hl s1 hs =>              -- ParameterDescription not written
    rw [(send_false hs).1]; exact stop r2
  case case5 d r1 hg name r2 hg2 _ kind hk st hl s1 hs => exact statement (hk ▸ getBytes1 hg) hg2 hl hs
  case case6 d r1 hg name r2 hg2 _ kind _ hk hl => exact unknownPortal (hk ▸ getBytes1 hg) hg2 hl
  case case7 d r1 hg name r2 hg2 _ kind _ hk p hl => exact portal (hk ▸ getBytes1 hg) hg2 hl
  case case8 d r1 hg name r2 hg2 _ kind hS hP => exact unknownKind (getBytes1 hg) hg2 hS hP

theorem handleBind_cases {P : Step → Prop} (s : Sess)
    (stop : ∀ r, P (.stop (s.setMsg r) .closed))
    (unknownStatement : ∀ {pname r1 sname r2 params rfmts r3}, getString s.inp.msg = some (pname, r1) →
      getString r1 = some (sname, r2) → decodeBindTail r2 = some (params, rfmts, r3) → lookup sname s.stmts = none →
      P (extendedError (s.setMsg r3) (some (errUnknownStatement sname))))
    (bound : ∀ {pname r1 sname r2 params rfmts r3 st}, getString s.inp.msg = some (pname, r1) →
      getString r1 = some (sname, r2) → decodeBindTail r2 = some (params, rfmts, r3) → lookup sname s.stmts = some st →
      P (afterWrite ({ s.setMsg r3 with
        portals := store pname { stmt := st, params, formats := rfmts } s.portals }.send .bindComplete))) :
    P (handleBind s) := by
  fun_cases handleBind s
  case case1 => exact stop s.inp.msg                                   -- no portal name
  case case2 => exact stop _                                           -- no statement name
  case case3 => exact stop _                                           -- formats, parameters or result formats cut short
  case case4 pname r1 hg sname r2 hg2 params rfmts r3 hd _ hl => exact unknownStatement hg hg2 hd hl
  case case5 pname r1 hg sname r2 hg2 params rfmts r3 hd _ st hl => exact bound hg hg2 hd hl

theorem handleExecute_cases {P : Step → Prop} (s : Sess)
    (stop : ∀ r, P (.stop (s.setMsg r) .closed))
    (unknownPortal : ∀ {name r1 lim r2}, getString s.inp.msg = some (name, r1) → getU32 r1 = some (lim, r2) →
      lookup name s.portals = none → P (extendedError (s.setMsg r2) (some (errUnknownPortal name))))
    (blocked : ∀ {name r1 lim r2 p s'}, getString s.inp.msg = some (name, r1) → getU32 r1 = some (lim, r2) →
      lookup name s.portals = some p →
      runProg (p.stmt.body p.params) { cols := p.stmt.cols, formats := p.formats }
        ((s.setMsg r2).log (.exec p.stmt.q p.stmt.idx p.params)) = (.blocked, s') → P (.stop s' .waiting))
    (panicked : ∀ {name r1 lim r2 p msg s'}, getString s.inp.msg = some (name, r1) → getU32 r1 = some (lim, r2) →
      lookup name s.portals = some p →
      runProg (p.stmt.body p.params) { cols := p.stmt.cols, formats := p.formats }
        ((s.setMsg r2).log (.exec p.stmt.q p.stmt.idx p.params)) = (.panicked msg, s') →
      P (extendedError s' (some (.base (ascii "unexpected panic: " ++ msg)))))
    (failed : ∀ {name r1 lim r2 p e s'}, getString s.inp.msg = some (name, r1) → getU32 r1 = some (lim, r2) →
      lookup name s.portals = some p →
      runProg (p.stmt.body p.params) { cols := p.stmt.cols, formats := p.formats }
        ((s.setMsg r2).log (.exec p.stmt.q p.stmt.idx p.params)) = (.done (some e), s') →
      P (extendedError s' (some e)))
    (done : ∀ {name r1 lim r2 p s'}, getString s.inp.msg = some (name, r1) → getU32 r1 = some (lim, r2) →
      lookup name s.portals = some p →
      runProg (p.stmt.body p.params) { cols := p.stmt.cols, formats := p.formats }
        ((s.setMsg r2).log (.exec p.stmt.q p.stmt.idx p.params)) = (.done none, s') → P (.cont s')) :
    P (handleExecute s) := by
  fun_cases handleExecute s
  case case1 => exact stop s.inp.msg                                   -- no portal name
  case case2 => exact stop _                                           -- no row limit
  case case3 name r1 hg lim r2 hg2 _ hl => exact unknownPortal hg hg2 hl
  case case4 name r1 hg lim r2 hg2 _ p hl _ s' hr => exact blocked hg hg2 hl hr
  case case5 name r1 hg lim r2 hg2 _ p hl _ msg s' hr => exact panicked hg hg2 hl hr
  case case6 name r1 hg lim r2 hg2 _ p hl _ e s' hr => exact failed hg hg2 hl hr
  case case7 name r1 hg lim r2 hg2 _ p hl _ s' hr => exact done hg hg2 hl hr

theorem handleClose_cases {P : Step → Prop} (s : Sess)
    (stop : ∀ r, P (.stop (s.setMsg r) .closed))
    (statement : ∀ {r1 name r2}, s.inp.msg = ch 'S' :: r1 → getString r1 = some (name, r2) →
      P (afterWrite ({ s.setMsg r2 with stmts := remove name s.stmts }.send .closeComplete)))
    (portal : ∀ {r1 name r2}, s.inp.msg = ch 'P' :: r1 → getString r1 = some (name, r2) →
      P (afterWrite ({ s.setMsg r2 with portals := remove name s.portals }.send .closeComplete)))
    (unknownKind : ∀ {kind r1 name r2}, s.inp.msg = kind :: r1 → getString r1 = some (name, r2) →
      kind ≠ ch 'S' → kind ≠ ch 'P' →
      P (extendedError (s.setMsg r2) (some (.base (ascii "unknown close command: " ++ quoteByte kind))))) :
    P (handleClose s) := by
  fun_cases handleClose s
  case case1 => exact stop s.inp.msg                                   -- no kind byte
  case case2 => exact stop _                                           -- no name
  case case3 d r1 hg name r2 hg2 _ kind hk => exact statement (hk ▸ getBytes1 hg) hg2
  case case4 d r1 hg name r2 hg2 _ kind _ hk => exact portal (hk ▸ getBytes1 hg) hg2
  case case5 d r1 hg name r2 hg2 _ kind hS hP => exact unknownKind (getBytes1 hg) hg2 hS hP

end Pw
