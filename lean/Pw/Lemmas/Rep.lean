import Pw.Lemmas.Progress
import Pw.Lemmas.Backend
/-
  Representability: what the wire format can carry.  Handler- and configuration-supplied strings are
  NUL-free, counts fit their 16-bit fields, encoded values fit a field.  Under these conditions every
  message the model emits is well-formed (`BMsg.WF`), Props/C02Session.
-/
namespace Pw
open Pw.Spec

theorem WriterErr.nf {e : OpErr} (h : WriterErr e) : OpErrNF e := by
  cases h with
  | closed => exact errClosedWriter_nf
  | arity => exact errArity_nf _ _
  | encode => trivial
  | dataWritten => exact errDataWritten_nf
  | noColumns => exact errNoColumns_nf
  | write => exact errWrite_nf

theorem dwRow_nf (d : DW) (s : Sess) (vals : List Val) (e : OpErr) (d' : DW) (s' : Sess)
    (h : dwRow d s vals = (.res (some e), d', s')) : OpErrNF e := by
  revert h
  exact dwRow_cases (P := fun r => r = _ → _) d s vals (fun _ _ he _ h => by cases h; exact he.nf)
    (fun _ _ _ => nofun) (fun _ _ _ _ _ => nofun)

/-- a value whose encodings fit a DataRow field -/
def ValRep (v : Val) : Prop := ∀ o f b, encodeVal o f v = .ok (some b) → b.length < 2147483648

def ColsRep (cols : List ColDesc) : Prop := cols.length < 65536 ∧ ∀ c ∈ cols, c.WF

/-- a handler program whose own contributions are representable: tags and returned errors are
    NUL-free, row values fit a field — whatever (representable) results the library hands back -/
inductive ProgRep : Prog → Prop where
  | ret (e : Option Err) (h : ∀ x, e = some x → errNulFree x) : ProgRep (.ret e)
  | note (n : Bytes) (k : Prog) (h : ProgRep k) : ProgRep (.note n k)
  | row (vals : List Val) (k : Option OpErr → Prog) (hv : ∀ v ∈ vals, ValRep v)
      (h : ∀ r, OptNF r → ProgRep (k r)) : ProgRep (.row vals k)
  | complete (tag : Bytes) (k : Option OpErr → Prog) (ht : nulFree tag)
      (h : ∀ r, OptNF r → ProgRep (k r)) : ProgRep (.complete tag k)
  | empty (k : Option OpErr → Prog) (h : ∀ r, OptNF r → ProgRep (k r)) : ProgRep (.empty k)
  | written (k : Nat → Prog) (h : ∀ n, ProgRep (k n)) : ProgRep (.written k)
  | copyIn (fmt : Nat) (k : Option OpErr → Prog) (h : ∀ r, OptNF r → ProgRep (k r)) : ProgRep (.copyIn fmt k)
  | copyRead (k : CopyRes → Prog) (h : ∀ r, CopyResNF r → ProgRep (k r)) : ProgRep (.copyRead k)
  | binNew (k : Option OpErr → Prog) (h : ∀ r, OptNF r → ProgRep (k r)) : ProgRep (.binNew k)
  | binRead (k : BinRes → Prog) (h : ∀ r, BinResNF r → ProgRep (k r)) : ProgRep (.binRead k)

def OutWF (s : Sess) : Prop := ∀ m ∈ s.out, m.WF

/-- `s'` is `s` after well-formed messages were written.  Only `out`, `stmts` and `portals` are read,
    so `log`, `setMsg`, `markUnsup` and a change of `inp` on either side do not show (`Ext s (s'.log e)`
    is `Ext s s'` by unfolding). -/
def Ext (s s' : Sess) : Prop := (OutWF s → OutWF s') ∧ s'.stmts = s.stmts ∧ s'.portals = s.portals

theorem Ext.outWF {s s' : Sess} (h : Ext s s') (ho : OutWF s) : OutWF s' := h.1 ho

theorem Ext.refl (s : Sess) : Ext s s := ⟨id, rfl, rfl⟩

theorem Ext.trans {a b c : Sess} (h1 : Ext a b) (h2 : Ext b c) : Ext a c :=
  ⟨h2.1 ∘ h1.1, h2.2.1.trans h1.2.1, h2.2.2.trans h1.2.2⟩

/-- one `Writer.End`, in the form in which a case split on its result leaves it -/
theorem Ext.send {s s1 : Sess} {m : BMsg} {ok : Bool} (h : s.send m = (s1, ok)) (hm : m.WF) : Ext s s1 := by
  cases ok with
  | false => rw [(send_false h).1]; exact .refl s
  | true =>
    obtain ⟨w, _, rfl⟩ := send_true h
    exact ⟨fun ho => List.forall_mem_cons.mpr ⟨hm, ho⟩, rfl, rfl⟩

theorem dwRow_ext (d : DW) (s : Sess) (vals : List Val) (hc : ColsRep d.cols) (hv : ∀ v ∈ vals, ValRep v) :
    Ext s (dwRow d s vals).2.2 ∧ (dwRow d s vals).2.1.cols = d.cols ∧
      (∀ m, (dwRow d s vals).1 = .panic m → nulFree m) := by
  refine dwRow_cases (P := fun r => Ext s r.2.2 ∧ r.2.1.cols = d.cols ∧ ∀ m, r.1 = .panic m → nulFree m) d s vals
    ?_ ?_ ?_
  · rintro e s' _ (rfl | rfl) <;> exact ⟨⟨id, rfl, rfl⟩, rfl, nofun⟩
  · exact fun f _ _ => ⟨.refl s, rfl, fun m hm => by cases hm; exact panicText_nf f⟩
  · intro fields s' _ he hs
    obtain ⟨hl, hf⟩ := encodeRow_ok _ _ _ _ _ he
    refine ⟨.send hs ⟨by have := hc.1; omega, fun f hfm b hb => ?_⟩, rfl, nofun⟩
    -- field `k` is the encoding of value `k`
    obtain ⟨k, hk, rfl⟩ := List.mem_iff_getElem.mp hfm
    obtain ⟨g, hg, hx⟩ := hf k (by omega) (by omega)
    rw [List.getElem?_eq_getElem hk] at hg
    cases hg
    exact hv _ (List.getElem_mem _) _ _ b (hb ▸ hx)

theorem dwComplete_ext (d : DW) (s : Sess) (tag : Bytes) (ht : nulFree tag) :
    Ext s (dwComplete d s tag).2.2 ∧ (dwComplete d s tag).2.1.cols = d.cols ∧ OptNF (dwComplete d s tag).1 := by
  refine dwComplete_cases (P := fun r => Ext s r.2.2 ∧ r.2.1.cols = d.cols ∧ OptNF r.1) d s tag ?_ ?_ ?_
  · exact fun _ => ⟨.refl s, rfl, .some errClosedWriter_nf⟩
  · exact fun _ => ⟨.refl s, rfl, .some errWrite_nf⟩
  · exact fun s' _ hs => ⟨.send hs ht, rfl, .none⟩

theorem dwEmpty_nf (d : DW) : (dwEmpty d).2.cols = d.cols ∧ OptNF (dwEmpty d).1 :=
  dwEmpty_cases (P := fun r => r.2.cols = d.cols ∧ OptNF r.1) d (fun _ he => ⟨rfl, .some he.nf⟩) (fun _ _ => ⟨rfl, .none⟩)

theorem dwCopyIn_ext (d : DW) (s : Sess) (fmt : Nat) (hc : ColsRep d.cols) :
    Ext s (dwCopyIn d s fmt).2.2 ∧ (dwCopyIn d s fmt).2.1.cols = d.cols ∧ OptNF (dwCopyIn d s fmt).1 :=
  dwCopyIn_cases (P := fun r => Ext s r.2.2 ∧ r.2.1.cols = d.cols ∧ OptNF r.1) d s fmt
    (fun _ he => ⟨.refl s, rfl, .some he.nf⟩)
    -- `Ext` does not see `setMsg`
    (fun s' _ _ hs => ⟨(Ext.send hs ⟨by omega, hc.1⟩ : Ext s s'), rfl, .none⟩)

/-- `s0` is carried along so that the induction hypothesis applies to the state after `log` as it stands. -/
theorem runProg_ext (s0 : Sess) (p : Prog) (hp : ProgRep p) : ∀ (d : DW) (s : Sess), ColsRep d.cols → Ext s0 s →
    Ext s0 (runProg p d s).2 ∧ (∀ e, (runProg p d s).1 = .done (some e) → errNulFree e) ∧
    (∀ m, (runProg p d s).1 = .panicked m → nulFree m) := by
  induction hp with
  | ret e h => intro d s _ h0; exact ⟨h0, fun x hx => h x (by simpa [runProg] using hx), by simp [runProg]⟩
  | note n k _ ih => intro d s hc h0; exact ih d _ hc h0
  | row vals k hv h ih =>
    intro d s hc h0
    simp only [runProg]
    obtain ⟨a, b, c⟩ := dwRow_ext d s vals hc hv
    have hnf := dwRow_nf d s vals
    generalize dwRow d s vals = x at a b c hnf
    obtain ⟨r | m, d', s'⟩ := x
    · exact ih r (fun e he => hnf e d' s' (by rw [he])) d' _ (b ▸ hc) (h0.trans a)
    · exact ⟨h0.trans a, nofun, fun x hx => by cases hx; exact c m rfl⟩
  | complete tag k ht h ih =>
    intro d s hc h0
    obtain ⟨a, b, n⟩ := dwComplete_ext d s tag ht
    exact ih _ n (dwComplete d s tag).2.1 _ (b.symm ▸ hc) (h0.trans a)
  | empty k h ih =>
    intro d s hc h0
    obtain ⟨b, n⟩ := dwEmpty_nf d
    exact ih _ n (dwEmpty d).2 _ (b.symm ▸ hc) h0
  | written k h ih => intro d s hc h0; exact ih _ d _ hc h0
  | copyIn fmt k h ih =>
    intro d s hc h0
    obtain ⟨a, b, n⟩ := dwCopyIn_ext d s fmt hc
    exact ih _ n (dwCopyIn d s fmt).2.1 _ (b.symm ▸ hc) (h0.trans a)
  | copyRead k h ih =>
    intro d s hc h0
    simp only [runProg]
    split
    · exact ih (.err errNoReader) errNoReader_nf d _ hc h0
    · have hnf := copyRead_nf (s.inp.items.length + 1) s.inp
      split
      · exact ⟨h0, by simp, by simp⟩
      · rename_i r i heq
        exact ih r (hnf r (by rw [heq])) d _ hc h0
  | binNew k h ih =>
    intro d s hc h0
    simp only [runProg]
    split
    · exact ih _ (.some errNoReader_nf) d _ hc h0
    · split
      · exact ih none .none _ _ hc h0
      · exact ih none .none _ _ hc h0
  | binRead k h ih =>
    intro d s hc h0
    simp only [runProg]
    split
    · exact ih (.err errNoReader) errNoReader_nf d _ hc h0
    · rename_i b _
      split
      · exact ⟨h0, by simp, by simp⟩
      · rename_i r b' i heq
        exact ih r (binRead_nf b s.inp r b' i heq) _ _ hc h0

/-- **every handler program**: running a representable program keeps the output well-formed, and
    what it hands back to the session (an error, or a panic text) is representable too -/
theorem runProg_wf (p : Prog) (hp : ProgRep p) : ∀ (d : DW) (s : Sess), ColsRep d.cols → OutWF s →
    OutWF (runProg p d s).2 ∧ (∀ e, (runProg p d s).1 = .done (some e) → errNulFree e) ∧
    (∀ m, (runProg p d s).1 = .panicked m → nulFree m) := by
  intro d s hc hs
  obtain ⟨x, y, z⟩ := runProg_ext s p hp d s hc (.refl s)
  exact ⟨x.outWF hs, y, z⟩

end Pw
