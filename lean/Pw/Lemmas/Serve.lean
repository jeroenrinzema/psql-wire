import Pw.Model.Serve
import Pw.Lemmas.Progress
/-
  `serve` reads a start-up packet in three places with the same code (`startupRound`).  Whatever it
  reads, the connection ends before anything is written or run, or goes on in `serveAfterVersion`
  from a state in which nothing has happened (`serve_cases`); `serveAfterVersion` is a chain of phases,
  each of which goes on or ends the connection (`serveAfterVersion_rule`).
-/
namespace Pw

/-- the state in which `serve` reads a start-up packet; only the number of writes left varies (the
    one-byte SSL reply has used one) -/
def startSess (cfg : Config) (w : Option Nat) : Sess :=
  { inp := { L := effLimit cfg.L, items := [], tail := cfg.tail }, wleft := w }

theorem writeRaw_startSess (cfg : Config) (w : Option Nat) :
    writeRaw (startSess cfg w) = (startSess cfg (w.map (· - 1)), w != some 0) := by
  rcases w with _ | _ | n <;> rfl

/-- one start-up packet read from `src` and acted upon, an SSLRequest treated like any other version -/
def startupRound (cfg : Config) (h : Handlers) (s0 : Sess) (src : Bytes) (stuffed : Bool)
    (ssl : Option UInt8) : Result :=
  match readUntyped (effLimit cfg.L) src with
  | .short => finish s0 (endOf cfg.tail) [] [] stuffed ssl
  | .exceeded => finish s0 .closed [] [] stuffed ssl
  | .msg body rest =>
    match getU32 body with
    | none => finish s0 .closed [] [] stuffed ssl
    | some (version, body) =>
      if version = versionCancel then finish s0 .closed [] [] stuffed ssl
      else serveAfterVersion cfg h s0 body rest stuffed ssl

theorem startupRound_cases {P : Result → Prop} (cfg : Config) (h : Handlers) (s0 : Sess) (src : Bytes)
    (st : Bool) (ssl : Option UInt8)
    (early : ∀ e, e = .closed ∨ e = endOf cfg.tail → P (finish s0 e [] [] st ssl))
    (sav : ∀ body rest, P (serveAfterVersion cfg h s0 body rest st ssl)) :
    P (startupRound cfg h s0 src st ssl) := by
  unfold startupRound
  split
  · exact early _ (Or.inr rfl)
  · exact early _ (Or.inl rfl)
  · split
    · exact early _ (Or.inl rfl)
    · split
      · exact early _ (Or.inl rfl)
      · exact sav _ _

theorem serve_eq (cfg : Config) (h : Handlers) (inp tin : Bytes) :
    serve cfg h inp tin =
      match readUntyped (effLimit cfg.L) inp with
      | .msg body rest =>
        if (getU32 body).map (·.1) = some versionSSL then
          match writeRaw (startSess cfg cfg.wleft) with
          | (s0, false) => finish s0 .closed [] []
          | (s0, true) =>
            if cfg.tls < 2 then startupRound cfg h s0 rest false (some (ch 'N'))
            else startupRound cfg h s0 tin (!rest.isEmpty) (some (ch 'S'))
        else startupRound cfg h (startSess cfg cfg.wleft) inp false none
      | _ => startupRound cfg h (startSess cfg cfg.wleft) inp false none := by
  have hne : versionSSL ≠ versionCancel := by decide
  -- the conditions are decided one by one and rewritten where they stand: `simp` would go through
  -- the whole body of `serve` at each step
  unfold serve startupRound startSess
  dsimp only
  cases readUntyped (effLimit cfg.L) inp with
  | short => rfl
  | exceeded => rfl
  | msg body rest =>
    dsimp only
    cases getU32 body with
    | none => exact (if_neg (fun e => nomatch e)).symm
    | some p =>
      obtain ⟨v, b⟩ := p
      dsimp only
      by_cases hv : v = versionSSL
      · subst hv
        refine Eq.trans ?_ (if_pos rfl).symm
        rw [if_neg hne, if_neg (not_not_intro rfl)]
        by_cases ht : cfg.tls < 2
        · rw [if_pos ht]
          rcases writeRaw _ with ⟨s0, _ | _⟩
          · rfl
          · exact (if_pos ht).symm
        · rw [if_neg ht]
          rcases writeRaw _ with ⟨s0, _ | _⟩
          · rfl
          · exact (if_neg ht).symm
      · refine Eq.trans ?_ (if_neg (fun e => hv (Option.some.inj e))).symm
        rw [if_pos hv]

theorem serve_plain (cfg : Config) (h : Handlers) (inp tin : Bytes)
    (hv : ∀ body r v b, readUntyped (effLimit cfg.L) inp = .msg body r → getU32 body = some (v, b) → v ≠ versionSSL) :
    serve cfg h inp tin = startupRound cfg h (startSess cfg cfg.wleft) inp false none := by
  rw [serve_eq]
  split
  · rename_i body r hr
    refine if_neg fun hg => ?_
    cases hb : getU32 body with
    | none => rw [hb] at hg; cases hg
    | some p => rw [hb] at hg; exact hv body r p.1 p.2 hr hb (Option.some.inj hg)
  · rfl

theorem serve_cases {P : Result → Prop} (cfg : Config) (h : Handlers) (inp tin : Bytes)
    (early : ∀ w e st ssl, e = .closed ∨ e = endOf cfg.tail → P (finish (startSess cfg w) e [] [] st ssl))
    (sav : ∀ w body rest st ssl, P (serveAfterVersion cfg h (startSess cfg w) body rest st ssl)) :
    P (serve cfg h inp tin) := by
  have round : ∀ w src st ssl, P (startupRound cfg h (startSess cfg w) src st ssl) := fun w src st ssl =>
    startupRound_cases cfg h _ src st ssl (early w · st ssl) (sav w · · st ssl)
  rw [serve_eq, writeRaw_startSess]
  split
  · split
    · cases cfg.wleft != some 0
      · exact early _ _ _ _ (Or.inl rfl)
      · dsimp only
        split
        · exact round _ _ _ _
        · exact round _ _ _ _
    · exact round _ _ _ _
  · exact round _ _ _ _

/-- `unanswered` takes together every way the exchange ends without a well-formed password message:
    nothing read, a read error, an oversized message, another type, no terminator -/
theorem authPhase_cases {P : Sess × Option End → Prop} (cfg : Config) (h : Handlers) (s : Sess) (db user : Bytes)
    (trust : ∀ s' ok, cfg.auth = false → s.send (.auth 0) = (s', ok) →
      P (s', if ok then none else some .closed))
    (unasked : cfg.auth = true → s.send (.auth 3) = (s, false) → P (s, some .closed))
    (unanswered : ∀ s1 i e, cfg.auth = true → s.send (.auth 3) = (s1, true) →
      e = .closed ∨ e = .waiting ∧ s1.inp.tail = .wait → P ({ s1 with inp := i }, some e))
    (validated : ∀ s1 body i pw r, cfg.auth = true → s.send (.auth 3) = (s1, true) →
      s1.inp.next = (.item (.msg (ch 'p') body), i) → i.tail = s1.inp.tail → cstr body = some (pw, r) →
      ∀ sv, sv = (({ s1 with inp := i } : Sess).setMsg r).log (.validate db user pw) →
      (h.validate db user pw = .fail → P (sv, some .closed)) ∧
      (h.validate db user pw = .reject → P ((sendError sv (some errInvalidPassword)).1, some .closed)) ∧
      (h.validate db user pw = .accept → ∀ s' ok, sv.send (.auth 0) = (s', ok) →
        P (s', if ok then none else some .closed))) :
    P (authPhase cfg h s db user) := by
  unfold authPhase
  cases ha : cfg.auth with
  | false =>
    rcases hs : s.send (.auth 0) with ⟨s', _ | _⟩
    · exact trust s' false ha hs
    · exact trust s' true ha hs
  | true =>
    rcases hs : s.send (.auth 3) with ⟨s1, _ | _⟩
    · obtain ⟨rfl, _⟩ := send_false hs
      exact unasked ha hs
    · dsimp only [Bool.not_true, Bool.false_eq_true, if_false]
      have hn := next_spec s1.inp
      rcases hnx : s1.inp.next with ⟨rd, i⟩
      rw [hnx] at hn
      cases hn with
      | blocked hw => exact unanswered s1 _ _ ha hs (Or.inr ⟨rfl, hw⟩)
      | rerr _ => exact unanswered s1 _ _ ha hs (Or.inl rfl)
      | item it i _ hit _ =>
        cases it with
        | big t sz f => exact unanswered s1 _ _ ha hs (Or.inl rfl)
        | msg t body =>
          dsimp only
          by_cases ht : t = ch 'p'
          · subst ht
            rw [if_neg (not_not_intro rfl)]
            cases hc : cstr body with
            | none => exact unanswered s1 _ _ ha hs (Or.inl rfl)
            | some p =>
              obtain ⟨hf, hr, hacc⟩ := validated s1 body i p.1 p.2 ha hs hnx hit hc _ rfl
              dsimp only
              cases hv : h.validate db user p.1 with
              | fail => exact hf hv
              | reject => exact hr hv
              | accept =>
                rcases hs0 : ((({ s1 with inp := i } : Sess).setMsg p.2).log (.validate db user p.1)).send (.auth 0)
                  with ⟨s', _ | _⟩
                · exact hacc hv s' false hs0
                · exact hacc hv s' true hs0
          · rw [if_pos ht]
            exact unanswered s1 _ _ ha hs (Or.inl rfl)

/-- Hoare rule for the phases of `serveAfterVersion`.  `I` is an invariant of the session as long as the
    connection goes on; `Q s e` is what is wanted of the session `s` in which it ends and of the way `e`
    it ends.  The premises:
    * `handed`, `setUp`: `I` holds of the session handed over and of it as `sessionStart` sets it up;
    * `closed`: wherever a phase fails (parameters that do not parse, a failed write, a failing
      middleware) the connection is `closed` in a session of which `I` holds: that must be enough for `Q`;
    * `authGoesOn`, `authEnds`: authentication keeps `I` when it lets the client in, and gives `Q` itself when
      it ends the connection, in whichever way;
    * `params`, `middlewares`: the ParameterStatus messages and the middleware chain keep `I`;
    * `session`: from `I` the command loop gives `Q`. -/
theorem serveAfterVersion_rule {I : Sess → Prop} {Q : Sess → End → Prop}
    (cfg : Config) (h : Handlers) (s0 : Sess) (body rest : Bytes) (st : Bool) (ssl : Option UInt8)
    (handed : I s0) (setUp : I (sessionStart s0 rest))
    (closed : ∀ s, I s → Q s .closed)
    (authGoesOn : ∀ s db user, I s → (authPhase cfg h s db user).2 = none → I (authPhase cfg h s db user).1)
    (authEnds : ∀ s db user e, I s → (authPhase cfg h s db user).2 = some e → Q (authPhase cfg h s db user).1 e)
    (params : ∀ cp, readClientParams (body.length + 1) body [] = some cp → ∀ s, I s →
      I (sendParams (serverParams cfg ((lookup (ascii "user") cp).getD [])) s).1)
    (middlewares : ∀ s, I s → I (runMiddlewares h.mws 0 s).1)
    (session : ∀ s, I s → Q (runSession h s).1 (runSession h s).2) :
    ∃ s e cp sp, serveAfterVersion cfg h s0 body rest st ssl = finish s e cp sp st ssl ∧ Q s e := by
  unfold serveAfterVersion
  dsimp only
  split
  · exact ⟨_, _, _, _, rfl, closed _ handed⟩
  · rename_i cp hcp
    have ha := authGoesOn _ ((lookup (ascii "database") cp).getD []) ((lookup (ascii "user") cp).getD []) setUp
    have haQ := fun e => authEnds _ ((lookup (ascii "database") cp).getD []) ((lookup (ascii "user") cp).getD []) e setUp
    split
    · rename_i s e heq
      rw [heq] at haQ
      exact ⟨_, _, _, _, rfl, haQ e rfl⟩
    · rename_i s heq
      rw [heq] at ha
      have hp := params cp hcp s (ha rfl)
      split
      · rename_i s1 heq1
        rw [heq1] at hp
        exact ⟨_, _, _, _, rfl, closed _ hp⟩
      · rename_i s1 heq1
        rw [heq1] at hp
        have hm := middlewares s1 hp
        split
        · rename_i s2 heq2
          rw [heq2] at hm
          exact ⟨_, _, _, _, rfl, closed _ hm⟩
        · rename_i s2 heq2
          rw [heq2] at hm
          exact ⟨_, _, _, _, rfl, session s2 hm⟩

end Pw
