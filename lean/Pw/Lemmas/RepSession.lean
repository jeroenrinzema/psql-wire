import Pw.Lemmas.Rep
import Pw.Props.C17
/-
  Representability at the level of commands: what a representable `ParseFn` returns (`StmtRep`, `HandlersRep`), what the
  session stores (`StateRep`), and the invariant `StepWF` — output well-formed, stored statements and portals
  representable — walked over the handlers, `stepCommand` and the loop.
-/
namespace Pw
open Pw.Spec

theorem quoteByte_nf (b : UInt8) : nulFree (quoteByte b) := by
  have h : ∀ n, n < 256 → nulFree (quoteByte (UInt8.ofNat n)) := by decide +kernel
  simpa using h b.toNat (UInt8.toNat_lt b)

def FmtsRep (f : List Nat) : Prop := ∀ x ∈ f, x < 65536

/-- a statement as a representable `ParseFn` returns it -/
def StmtRep (st : Stmt) : Prop :=
  ColsRep st.cols ∧ st.params.length < 65536 ∧ (∀ o ∈ st.params, o < 4294967296) ∧ ∀ ps, ProgRep (st.body ps)

theorem StmtRep.cols {st : Stmt} (h : StmtRep st) : ColsRep st.cols := h.1

theorem StmtRep.paramDesc {st : Stmt} (h : StmtRep st) : (BMsg.paramDesc st.params).WF := ⟨h.2.1, h.2.2.1⟩

theorem StmtRep.body {st : Stmt} (h : StmtRep st) (ps : List Param) : ProgRep (st.body ps) := h.2.2.2 ps

def HandlersRep (h : Handlers) : Prop :=
  ∀ q, match h.parse q with
    | .ok sts => ∀ st ∈ sts, StmtRep st
    | .error e => errNulFree e

def StateRep (s : Sess) : Prop :=
  (∀ n st, lookup n s.stmts = some st → StmtRep st) ∧
  (∀ n p, lookup n s.portals = some p → StmtRep p.stmt ∧ FmtsRep p.formats)

theorem StateRep.stmt {s : Sess} (h : StateRep s) {n : Bytes} {st : Stmt} (hl : lookup n s.stmts = some st) :
    StmtRep st := h.1 n st hl

theorem StateRep.portal {s : Sess} (h : StateRep s) {n : Bytes} {p : Portal} (hl : lookup n s.portals = some p) :
    StmtRep p.stmt ∧ FmtsRep p.formats := h.2 n p hl

def StepWF (st : Step) : Prop :=
  (∀ s', st = .cont s' → OutWF s' ∧ StateRep s') ∧ (∀ s' e, st = .stop s' e → OutWF s')

theorem readCodes_rep (n : Nat) (m : Bytes) (cs : List Nat) (r : Bytes) (h : readCodes n m = some (cs, r)) : FmtsRep cs := by
  fun_induction readCodes n m generalizing cs
  case case1 => cases h; exact nofun
  case case2 => cases h
  case case3 => cases h
  case case4 c _ hc cs' _ hr ih =>
    cases h
    exact List.forall_mem_cons.mpr ⟨(rd16_eq_some.mp hc).2, ih cs' hr⟩

theorem decodeBindTail_rep (m : Bytes) (ps : List Param) (rf : List Nat) (r : Bytes)
    (h : decodeBindTail m = some (ps, rf, r)) : FmtsRep rf := by
  revert h
  -- every branch but the last returns `none`
  fun_cases decodeBindTail m <;> intro h <;> cases h
  exact readCodes_rep _ _ _ _ ‹_›

theorem formatFor_lt (formats : List Nat) (hf : FmtsRep formats) (i : Nat) : formatFor formats i < 65536 := by
  unfold formatFor
  split
  · omega
  · split
    · rename_i h
      rw [List.getD_eq_getElem?_getD, List.getElem?_eq_getElem h]
      exact hf _ (List.getElem_mem h)
    · cases formats with
      | nil => simp
      | cons a r => simp; exact hf a (by simp)

theorem colFormats_wf (formats : List Nat) (cols : List ColDesc) (hc : ColsRep cols) (hf : FmtsRep formats) :
    (BMsg.rowDesc (colFormats formats cols)).WF := by
  unfold colFormats
  refine ⟨by simp; exact hc.1, ?_⟩
  intro c hcm
  rw [List.mem_iff_getElem] at hcm
  obtain ⟨i, hi, rfl⟩ := hcm
  simp only [List.getElem_zipWith]
  exact ⟨hc.2 _ (List.getElem_mem _), formatFor_lt formats hf _⟩

theorem fmtsRep_nil : FmtsRep [] := by intro x hx; simp at hx

theorem Ext.stateRep {s s' : Sess} (h : Ext s s') (hs : StateRep s) : StateRep s' := by
  unfold StateRep
  rw [h.2.1, h.2.2]
  exact hs

theorem Ext.rep {s s' : Sess} (h : Ext s s') (ho : OutWF s) (hs : StateRep s) : OutWF s' ∧ StateRep s' :=
  ⟨h.outWF ho, h.stateRep hs⟩

theorem stop_wf {s : Sess} {e : End} (h : OutWF s) : StepWF (.stop s e) := by
  refine ⟨by simp, fun s' e' he => ?_⟩
  cases he; exact h

theorem cont_wf {s : Sess} (h : OutWF s) (hs : StateRep s) : StepWF (.cont s) := by
  refine ⟨fun s' he => ?_, by simp⟩
  cases he; exact ⟨h, hs⟩

theorem afterWrite_wf {s : Sess} {m : BMsg} (h : OutWF s) (hs : StateRep s) (hm : m.WF) : StepWF (afterWrite (s.send m)) := by
  rcases hsend : s.send m with ⟨s1, ok⟩
  have e := Ext.send hsend hm
  cases ok with
  | true => exact cont_wf (e.outWF h) (e.stateRep hs)
  | false => exact stop_wf (e.outWF h)

theorem errorCode_wf {s : Sess} {e : Err} (h : OutWF s) (hs : StateRep s) (he : errNulFree e) : StepWF (errorCode s (some e)) := by
  unfold errorCode sendError
  rcases hsend : s.send (.error (errorBody (flatten (some e)))) with ⟨s1, ok⟩
  have x := Ext.send hsend (Props.C17.C17_wellformed e he)
  cases ok with
  | false => exact stop_wf (x.outWF h)
  | true => exact afterWrite_wf (x.outWF h) (x.stateRep hs) trivial

theorem extendedError_wf {s : Sess} {e : Err} (h : OutWF s) (hs : StateRep s) (he : errNulFree e) :
    StepWF (extendedError s (some e)) := by
  unfold extendedError sendError
  exact afterWrite_wf h hs (Props.C17.C17_wellformed e he)

theorem StmtRep.relabel {st : Stmt} (h : StmtRep st) (q : Bytes) (i : Nat) : StmtRep { st with q := q, idx := i } := h

theorem labelStmts_rep (q : Bytes) (sts : List Stmt) (h : ∀ st ∈ sts, StmtRep st) : ∀ st ∈ labelStmts q sts, StmtRep st := by
  intro st hst
  unfold labelStmts at hst
  rw [List.mem_iff_getElem] at hst
  obtain ⟨i, hi, rfl⟩ := hst
  simp only [List.getElem_zipWith]
  exact (h _ (List.getElem_mem _)).relabel _ _

theorem HandlersRep.ok {h : Handlers} (hh : HandlersRep h) {q : Bytes} {sts : List Stmt}
    (hp : h.parse q = .ok sts) : ∀ st ∈ sts, StmtRep st := by
  have := hh q
  rwa [hp] at this

theorem HandlersRep.error {h : Handlers} (hh : HandlersRep h) {q : Bytes} {e : Err}
    (hp : h.parse q = .error e) : errNulFree e := by
  have := hh q
  rwa [hp] at this

/-- the optional RowDescription in front of a statement -/
theorem defined_rep {st : Stmt} {s s1 : Sess} {ok : Bool} (hst : StmtRep st) (ho : OutWF s) (hs : StateRep s)
    (h : (if st.cols.length = 0 then (s, true) else s.send (.rowDesc (colFormats [] st.cols))) = (s1, ok)) :
    OutWF s1 ∧ StateRep s1 := by
  split at h
  · cases h; exact ⟨ho, hs⟩
  · exact (Ext.send h (colFormats_wf [] st.cols hst.cols fmtsRep_nil)).rep ho hs

/-- `runProg_ext` for a statement or portal, as an equation on the run: the form in which
    `handleExecute_cases` and the walk of `runStatements` hand it over -/
theorem ran_rep {st : Stmt} {ps : List Param} {formats : List Nat} {s s2 : Sess} {o : Outcome} (hst : StmtRep st)
    (hr : runProg (st.body ps) { cols := st.cols, formats := formats } s = (o, s2)) (ho : OutWF s) (hs : StateRep s) :
    OutWF s2 ∧ StateRep s2 ∧ (∀ e, o = .done (some e) → errNulFree e) ∧ (∀ m, o = .panicked m → nulFree m) := by
  obtain ⟨x, y, z⟩ := runProg_ext s (st.body ps) (hst.body ps) { cols := st.cols, formats := formats } s hst.cols (.refl s)
  rw [hr] at x y z
  exact ⟨x.outWF ho, x.stateRep hs, y, z⟩

/- In the walk below `ho : OutWF s` and `hs : StateRep s` are used as they stand for `s.setMsg r`,
   `s.log e` and `{ s with discard := _ }`: both predicates read `out`, `stmts` and `portals` only. -/

theorem stmt_rep {st : Stmt} {s s1 s2 : Sess} {e : Event} {o : Outcome} (hst : StmtRep st) (ho : OutWF s) (hs : StateRep s)
    (hd : (if st.cols.length = 0 then (s, true) else s.send (.rowDesc (colFormats [] st.cols))) = (s1, true))
    (hr : runProg (st.body []) { cols := st.cols, formats := [] } (s1.log e) = (o, s2)) :
    OutWF s2 ∧ StateRep s2 ∧ (∀ e, o = .done (some e) → errNulFree e) ∧ (∀ m, o = .panicked m → nulFree m) := by
  obtain ⟨a, b⟩ := defined_rep hst ho hs hd
  exact ran_rep hst hr a b

theorem runStatements_wf (sts : List Stmt) (s : Sess) (hr : ∀ st ∈ sts, StmtRep st) (ho : OutWF s) (hs : StateRep s) :
    StepWF (runStatements sts s) := by
  fun_induction runStatements sts s with
  | case1 s => exact afterWrite_wf ho hs trivial                       -- no statement left
  | case2 st rest s defined sDesc hdesc =>                                  -- RowDescription not written
    obtain ⟨a, b⟩ := defined_rep (hr st (by simp)) ho hs hdesc
    exact errorCode_wf a b errWrite_nf
  | case3 st rest s defined sDesc hdesc sExec sRan hrun =>                  -- blocked
    exact stop_wf (stmt_rep (hr st (by simp)) ho hs hdesc hrun).1
  | case4 st rest s defined sDesc hdesc sExec msg sRan hrun =>              -- panicked
    exact stop_wf (stmt_rep (hr st (by simp)) ho hs hdesc hrun).1
  | case5 st rest s defined sDesc hdesc sExec e sRan hrun =>                -- statement error
    obtain ⟨x, y, z, _⟩ := stmt_rep (hr st (by simp)) ho hs hdesc hrun
    exact errorCode_wf x y (z e rfl)
  | case6 st rest s defined sDesc hdesc sExec sRan hrun ih =>               -- on to the rest
    obtain ⟨x, y, _⟩ := stmt_rep (hr st (by simp)) ho hs hdesc hrun
    exact ih (fun st' h' => hr st' (by simp [h'])) x y

theorem rep_store {α} (P : α → Prop) (m : List (Bytes × α)) (k : Bytes) (v : α)
    (hm : ∀ n x, lookup n m = some x → P x) (hv : P v) : ∀ n x, lookup n (store k v m) = some x → P x := by
  intro n x hl
  rw [lookup_store] at hl
  split at hl
  · cases hl; exact hv
  · exact hm n x hl

theorem rep_remove {α} (P : α → Prop) (m : List (Bytes × α)) (k : Bytes)
    (hm : ∀ n x, lookup n m = some x → P x) : ∀ n x, lookup n (remove k m) = some x → P x := by
  intro n x hl
  rw [lookup_remove] at hl
  split at hl
  · cases hl
  · exact hm n x hl

theorem handleSimpleQuery_wf (h : Handlers) (s : Sess) (hh : HandlersRep h) (ho : OutWF s) (hs : StateRep s) :
    StepWF (handleSimpleQuery h s) :=
  handleSimpleQuery_cases (P := StepWF) h s
    (stop := fun _ => stop_wf ho)
    (blank := fun _ _ heq =>
      have ⟨a, b⟩ := (Ext.send heq trivial).rep ho hs
      afterWrite_wf a b trivial)
    (parseError := fun _ _ hp => errorCode_wf ho hs (hh.error hp))
    (noStatement := fun _ _ _ => errorCode_wf ho hs errUndefinedStatement_nf)
    (statements := fun _ _ hp _ => runStatements_wf _ _ (labelStmts_rep _ _ (hh.ok hp)) ho hs)

theorem handleParse_wf (h : Handlers) (s : Sess) (hh : HandlersRep h) (ho : OutWF s) (hs : StateRep s) :
    StepWF (handleParse h s) :=
  handleParse_cases (P := StepWF) h s
    (stop := fun _ => stop_wf ho)
    (parseError := fun _ _ _ hp => extendedError_wf ho hs (hh.error hp))
    (noStatement := fun _ _ _ _ => extendedError_wf ho hs errUndefinedStatement_nf)
    (stored := fun _ _ _ hp =>
      afterWrite_wf ho ⟨rep_store StmtRep _ _ _ hs.1 ((hh.ok hp _ (.head _)).relabel _ _), hs.2⟩ trivial)
    (several := fun _ _ _ _ _ _ => extendedError_wf ho hs errMultipleCommands_nf)

theorem describeCols_wf {s : Sess} {f : List Nat} {cols : List ColDesc} (ho : OutWF s) (hs : StateRep s)
    (hc : ColsRep cols) (hf : FmtsRep f) : StepWF (afterWrite (describeCols s f cols)) := by
  unfold describeCols
  split
  · exact afterWrite_wf ho hs trivial
  · exact afterWrite_wf ho hs (colFormats_wf f cols hc hf)

theorem handleDescribe_wf (s : Sess) (ho : OutWF s) (hs : StateRep s) : StepWF (handleDescribe s) :=
  handleDescribe_cases (P := StepWF) s
    (stop := fun _ => stop_wf ho)
    (unknownStatement := fun _ _ _ => extendedError_wf ho hs (nulFree_ascii _ rfl))
    (statement := fun _ _ hl heq =>
      have ⟨a, b⟩ := (Ext.send heq (hs.stmt hl).paramDesc).rep ho hs
      describeCols_wf a b (hs.stmt hl).cols fmtsRep_nil)
    (unknownPortal := fun _ _ _ => extendedError_wf ho hs (nulFree_ascii _ rfl))
    (portal := fun _ _ hl => describeCols_wf ho hs (hs.portal hl).1.cols (hs.portal hl).2)
    (unknownKind := fun _ _ _ _ =>
      extendedError_wf ho hs (nulFree_append (nulFree_ascii _ rfl) (quoteByte_nf _)))

theorem handleBind_wf (s : Sess) (ho : OutWF s) (hs : StateRep s) : StepWF (handleBind s) :=
  handleBind_cases (P := StepWF) s
    (stop := fun _ => stop_wf ho)
    (unknownStatement := fun _ hg2 _ _ =>
      extendedError_wf ho hs (errUnknownStatement_nf _ (cstr_nulFree _ _ _ hg2)))
    (bound := fun _ _ hd hl =>
      afterWrite_wf ho ⟨hs.1, rep_store (fun (p : Portal) => StmtRep p.stmt ∧ FmtsRep p.formats) _ _ _ hs.2
        ⟨hs.stmt hl, decodeBindTail_rep _ _ _ _ hd⟩⟩ trivial)

theorem handleClose_wf (s : Sess) (ho : OutWF s) (hs : StateRep s) : StepWF (handleClose s) :=
  handleClose_cases (P := StepWF) s
    (stop := fun _ => stop_wf ho)
    (statement := fun _ _ => afterWrite_wf ho ⟨rep_remove StmtRep _ _ hs.1, hs.2⟩ trivial)
    (portal := fun _ _ =>
      afterWrite_wf ho ⟨hs.1, rep_remove (fun (p : Portal) => StmtRep p.stmt ∧ FmtsRep p.formats) _ _ hs.2⟩ trivial)
    (unknownKind := fun _ _ _ _ =>
      extendedError_wf ho hs (nulFree_append (nulFree_ascii _ rfl) (quoteByte_nf _)))

theorem handleExecute_wf (s : Sess) (ho : OutWF s) (hs : StateRep s) : StepWF (handleExecute s) :=
  handleExecute_cases (P := StepWF) s
    (stop := fun _ => stop_wf ho)
    (unknownPortal := fun hg _ _ => extendedError_wf ho hs (errUnknownPortal_nf _ (cstr_nulFree _ _ _ hg)))
    (blocked := fun _ _ hl hr => stop_wf (ran_rep (hs.portal hl).1 hr ho hs).1)
    (panicked := fun _ _ hl hr =>
      have ⟨x, y, _, z⟩ := ran_rep (hs.portal hl).1 hr ho hs
      extendedError_wf x y (nulFree_append (nulFree_ascii _ rfl) (z _ rfl)))
    (failed := fun _ _ hl hr =>
      have ⟨x, y, z, _⟩ := ran_rep (hs.portal hl).1 hr ho hs
      extendedError_wf x y (z _ rfl))
    (done := fun _ _ hl hr =>
      have ⟨x, y, _⟩ := ran_rep (hs.portal hl).1 hr ho hs
      cont_wf x y)

theorem handleCommand_wf (h : Handlers) (t : UInt8) (s : Sess) (hh : HandlersRep h) (ho : OutWF s) (hs : StateRep s) :
    StepWF (handleCommand h t s) :=
  handleCommand_cases (P := fun _ => StepWF) h t s
    (skip := fun _ _ _ => cont_wf ho hs)
    (query := fun _ => handleSimpleQuery_wf h s hh ho hs)
    (execute := fun _ => handleExecute_wf s ho hs)
    (parse := fun _ => handleParse_wf h s hh ho hs)
    (describe := fun _ => handleDescribe_wf s ho hs)
    (sync := afterWrite_wf ho hs trivial)
    (bind := fun _ => handleBind_wf s ho hs)
    (noop := fun _ _ => cont_wf ho hs)
    (close := fun _ => handleClose_wf s ho hs)
    (terminate := fun _ => stop_wf ho)
    (terminateHook := fun _ _ => stop_wf ho)
    (unknown := fun _ _ => errorCode_wf ho hs (errUnimplemented_nf t))

theorem handleOversize_wf (t : UInt8) (size : Int) (s : Sess) (ho : OutWF s) (hs : StateRep s) :
    StepWF (handleOversize t size s) := by
  unfold handleOversize
  dsimp only
  split
  · exact errorCode_wf ho hs (errSizeExceeded_nf _ _)
  · unfold sendError; exact afterWrite_wf ho hs (Props.C17.C17_wellformed _ (errSizeExceeded_nf _ _))

theorem stepCommand_wf (h : Handlers) (s : Sess) (hh : HandlersRep h) (ho : OutWF s) (hs : StateRep s) :
    StepWF (stepCommand h s) := by
  unfold stepCommand
  split
  · exact stop_wf ho
  · exact stop_wf ho
  · dsimp only
    split
    · exact handleOversize_wf _ _ _ ho hs
    · exact stop_wf ho
  · exact handleCommand_wf h _ _ hh ho hs

theorem loop_wf (h : Handlers) (hh : HandlersRep h) : ∀ (fuel : Nat) (s : Sess), OutWF s → StateRep s → OutWF (loop h fuel s).1 := by
  intro fuel
  induction fuel with
  | zero => intro s ho _; exact ho
  | succ n ih =>
    intro s ho hs
    simp only [loop]
    have := stepCommand_wf h s hh ho hs
    cases hst : stepCommand h s with
    | stop s' e => exact this.2 s' e hst
    | cont s' => obtain ⟨a, b⟩ := this.1 s' hst; exact ih s' a b

end Pw
