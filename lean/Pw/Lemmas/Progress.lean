import Pw.Lemmas.Frame
import Pw.Lemmas.ErrNF
/-
  What reading does to the input side, and what it reports.  Every reader only consumes items, never
  changes the limit, never turns an ended stream (`tail ≠ wait`) back into a waiting one, blocks — given
  enough fuel, which the callers always supply — only when the stream is merely waiting, and hands back
  only errors with a NUL-free text.  `RanIf` says this of one step; each reader is walked once, for it.
-/
namespace Pw

/-- `b` is `a` after some reading -/
def InpLe (a b : Inp) : Prop :=
  b.items.length ≤ a.items.length ∧ b.L = a.L ∧ (a.tail ≠ .wait → b.tail ≠ .wait)

theorem InpLe.refl (a : Inp) : InpLe a a := ⟨Nat.le_refl _, rfl, id⟩

theorem InpLe.trans {a b c : Inp} (h1 : InpLe a b) (h2 : InpLe b c) : InpLe a c :=
  ⟨Nat.le_trans h2.1 h1.1, h2.2.1.trans h1.2.1, fun h => h2.2.2 (h1.2.2 h)⟩

theorem InpLe.msg (a : Inp) (m : Bytes) : InpLe a { a with msg := m } := ⟨Nat.le_refl _, rfl, id⟩

inductive NextSpec (s : Inp) : Rd × Inp → Prop where
  | item (it : Item) (s' : Inp) (h1 : s'.items.length + 1 = s.items.length) (h2 : s'.tail = s.tail)
      (h3 : s'.L = s.L) : NextSpec s (.item it, s')
  | blocked (h : s.tail = .wait) : NextSpec s (.blocked, s)
  | rerr (h : s.tail ≠ .wait) : NextSpec s (.rerr, s)

theorem next_spec (s : Inp) : NextSpec s s.next := by
  unfold Inp.next
  split
  · rename_i t b r heq; exact .item _ _ (by simp [heq]) rfl rfl
  · rename_i t sz f r heq; exact .item _ _ (by simp [heq]) rfl rfl
  · cases ht : s.tail with
    | wait => simp only []; exact .blocked ht
    | rerr => simp only []; exact .rerr (by simp [ht])
    | eof m => simp only []; exact .rerr (by simp [ht])

theorem next_item {s s1 : Inp} {it : Item} (h : s.next = (.item it, s1)) :
    InpLe s s1 ∧ s1.items.length < s.items.length ∧ s1.tail = s.tail := by
  have hn := next_spec s
  rw [h] at hn
  cases hn with
  | item _ _ h1 h2 h3 => exact ⟨⟨by omega, h3, fun ht => h2 ▸ ht⟩, by omega, h2⟩

theorem next_blocked {s s1 : Inp} (h : s.next = (.blocked, s1)) : s1 = s ∧ s.tail = .wait := by
  have hn := next_spec s
  rw [h] at hn
  cases hn with
  | blocked ht => exact ⟨rfl, ht⟩

theorem next_rerr {s s1 : Inp} (h : s.next = (.rerr, s1)) : s1 = s := by
  have hn := next_spec s
  rw [h] at hn
  cases hn with
  | rerr _ => rfl

/-- the three ways a reader step can end, whatever its own result type -/
inductive Kind where
  | ok
  | err (e : OpErr)
  | blocked

def copyKind : Option CopyRes → Kind
  | none => .blocked
  | some (.err e) => .err e
  | some _ => .ok

def FillRes.kind : FillRes → Kind
  | .ok | .eof => .ok
  | .err e => .err e
  | .blocked => .blocked

def TakeRes.kind : TakeRes → Kind
  | .ok _ => .ok
  | .err e => .err e
  | .blocked => .blocked

def LenRes.kind : LenRes → Kind
  | .ok _ => .ok
  | .err e => .err e
  | .blocked => .blocked

def StepRes.kind : StepRes → Kind
  | .ok => .ok
  | .err e => .err e
  | .blocked => .blocked

def FieldsRes.kind : FieldsRes → Kind
  | .ok _ | .unsupported => .ok
  | .err e => .err e
  | .blocked => .blocked

def readKind : Option BinRes → Kind
  | none => .blocked
  | some (.err e) => .err e
  | some _ => .ok

/-- a reader step went from `s` to `s'` and ended in `k`; `enough` is what its fuel must satisfy for `live` -/
structure RanIf (enough : Prop) (s : Inp) (k : Kind) (s' : Inp) : Prop where
  le : InpLe s s'
  live : s.tail ≠ .wait → enough → k ≠ .blocked
  nf : ∀ e, k = .err e → OpErrNF e

/-- the readers above `fill` bring their own fuel -/
abbrev Ran := RanIf True

theorem RanIf.done {c : Prop} {s s' : Inp} (h : InpLe s s') : RanIf c s .ok s' :=
  ⟨h, fun _ _ h => (nomatch h), fun _ h => (nomatch h)⟩

theorem RanIf.failed {c : Prop} {s s' : Inp} {e : OpErr} (h : InpLe s s') (he : OpErrNF e) : RanIf c s (.err e) s' :=
  ⟨h, fun _ _ h => (nomatch h), fun _ h => by cases h; exact he⟩

theorem RanIf.blocked {c : Prop} {s s' : Inp} (h : InpLe s s') (ht : s.tail = .wait) : RanIf c s .blocked s' :=
  ⟨h, fun h _ => absurd ht h, fun _ h => (nomatch h)⟩

theorem RanIf.after {c c1 : Prop} {s s1 s2 : Inp} {k : Kind} (h1 : InpLe s s1) (h2 : RanIf c1 s1 k s2)
    (hc : c → c1) : RanIf c s k s2 :=
  ⟨h1.trans h2.le, fun ht he => h2.live (h1.2.2 ht) (hc he), h2.nf⟩

theorem Ran.andThen {s s1 s2 : Inp} {k : Kind} (h1 : Ran s .ok s1) (h2 : Ran s1 k s2) : Ran s k s2 :=
  h2.after h1.le id

theorem Ran.fail {s s1 : Inp} {e : OpErr} (h : Ran s .ok s1) (he : OpErrNF e) : Ran s (.err e) s1 :=
  .failed h.le he

theorem Ran.wrap {s s1 : Inp} {e : OpErr} (h : Ran s (.err e) s1) (pre : String) (hp : nulFree (ascii pre)) :
    Ran s (.err (wrapOp pre e)) s1 :=
  .failed h.le (wrapOp_nf pre e hp (h.nf e rfl))

theorem Ran.unsup {s s1 : Inp} {k : Kind} (h : Ran s k s1) : Ran s k { s1 with unsup := true } :=
  ⟨⟨h.le.1, h.le.2.1, h.le.2.2⟩, h.live, h.nf⟩

/-- The second part is what `binFill`'s fuel rests on: a CopyData handed out has cost the stream an
    item, so `binFill`, which goes round once per CopyData, is through after `items.length + 1` rounds. -/
theorem copyRead_ran (fuel : Nat) (s : Inp) :
    RanIf (s.items.length < fuel) s (copyKind (copyRead fuel s).1) (copyRead fuel s).2 ∧
    ∀ p, (copyRead fuel s).1 = some (.data p) → (copyRead fuel s).2.items.length < s.items.length := by
  -- `eof true` becomes `eof false`: still not waiting
  have ended (s : Inp) : InpLe s { s with tail := .eof false } := ⟨Nat.le_refl _, rfl, fun _ => nofun⟩
  fun_induction copyRead fuel s
  case case1 s => exact ⟨⟨InpLe.refl s, fun _ h => absurd h (Nat.not_lt_zero _), nofun⟩, nofun⟩
  case case2 _ s _ hn =>                                                   -- nothing to read yet
    obtain ⟨rfl, ht⟩ := next_blocked hn
    exact ⟨.blocked (InpLe.refl _) ht, nofun⟩
  case case3 _ s _ hn _ => cases next_rerr hn; exact ⟨.done (InpLe.refl s), nofun⟩            -- io.EOF
  case case4 _ s _ hn _ => cases next_rerr hn; exact ⟨.failed (ended s) errUnexpectedEOF_nf, nofun⟩
  case case5 _ s _ hn _ _ => cases next_rerr hn; exact ⟨.failed (InpLe.refl s) errRead_nf, nofun⟩
  case case6 hn => exact ⟨.failed (next_item hn).1 (errSizeExceeded_nf _ _), nofun⟩            -- oversized, all there
  case case7 hn _ ht =>                                                    -- oversized, stream waiting
    obtain ⟨base, _, h2⟩ := next_item hn
    exact ⟨.blocked base (h2 ▸ ht), nofun⟩
  case case8 hn _ _ _ => exact ⟨.failed ((next_item hn).1.trans (ended _)) errUnexpectedEOF_nf, nofun⟩
  case case9 hn _ _ => exact ⟨.failed (next_item hn).1 errRead_nf, nofun⟩
  case case10 hn _ ih =>                                                   -- Flush / Sync: skipped
    obtain ⟨base, hlt, _⟩ := next_item hn
    exact ⟨ih.1.after base (by omega), fun p hp => Nat.lt_trans (ih.2 p hp) hlt⟩
  case case11 hn _ => exact ⟨.done (next_item hn).1, fun _ _ => (next_item hn).2.1⟩           -- CopyData
  case case12 hn _ _ => exact ⟨.done (next_item hn).1, nofun⟩                                  -- CopyDone
  case case13 hn _ _ _ => exact ⟨.failed (next_item hn).1 errMissingNul_nf, nofun⟩            -- CopyFail
  case case14 hb hn _ _ _ =>
    exact ⟨.failed ((next_item hn).1.trans (InpLe.msg _ _)) (errCopyFailed_nf _ (cstr_nulFree _ _ _ hb)), nofun⟩
  case case15 hn _ _ _ _ => exact ⟨.failed (next_item hn).1 (errUnimplemented_nf _), nofun⟩

/-- `CopyReader.Read` -/
theorem copyRead_spec : ∀ (fuel : Nat) (s : Inp),
    InpLe s (copyRead fuel s).2 ∧
    (∀ p, (copyRead fuel s).1 = some (.data p) → (copyRead fuel s).2.items.length < s.items.length) ∧
    (s.tail ≠ .wait → s.items.length < fuel → (copyRead fuel s).1 ≠ none) := by
  intro fuel s
  obtain ⟨h, hd⟩ := copyRead_ran fuel s
  exact ⟨h.le, hd, fun ht hf hn => h.live ht hf (by rw [hn]; rfl)⟩

theorem copyRead_nf : ∀ (fuel : Nat) (s : Inp) (r : CopyRes), (copyRead fuel s).1 = some r → CopyResNF r := by
  intro fuel s r h
  cases r with
  | err e => exact (copyRead_ran fuel s).1.nf e (by rw [h]; rfl)
  | data p => trivial
  | eof => trivial

theorem binFill_enough {n fuel : Nat} {b : Bin} (s : Inp) (h : n ≤ b.pending.length) :
    binFill n (fuel + 1) b s = (.ok, b, s) := by
  rw [binFill, if_pos h]

theorem binFill_done {n fuel : Nat} {b : Bin} (s : Inp) (h : ¬ n ≤ b.pending.length) (hd : b.done = true) :
    binFill n (fuel + 1) b s = (.eof, b, s) := by
  rw [binFill, if_neg h, if_pos hd]

theorem binFill_data {n fuel : Nat} {b : Bin} {s s' : Inp} {p : Bytes} (h : ¬ n ≤ b.pending.length)
    (hd : b.done = false) (hc : copyRead (s.items.length + 1) s = (some (.data p), s')) :
    binFill n (fuel + 1) b s = binFill n fuel { b with pending := b.pending ++ p } { s' with msg := [] } := by
  rw [binFill, if_neg h, if_neg (by simp [hd]), hc]

theorem binFill_eof {n fuel : Nat} {b : Bin} {s s' : Inp} (h : ¬ n ≤ b.pending.length) (hd : b.done = false)
    (hc : copyRead (s.items.length + 1) s = (some .eof, s')) :
    binFill n (fuel + 1) b s = (.eof, { b with done := true }, s') := by
  rw [binFill, if_neg h, if_neg (by simp [hd]), hc]

theorem binFill_ran (size fuel : Nat) (b : Bin) (s : Inp) :
    RanIf (s.items.length < fuel) s (binFill size fuel b s).1.kind (binFill size fuel b s).2.2 := by
  fun_induction binFill size fuel b s
  case case1 b s => exact ⟨InpLe.refl s, fun _ h => absurd h (Nat.not_lt_zero _), nofun⟩
  case case2 => exact .done (InpLe.refl _)                                 -- enough is pending
  case case3 => exact .done (InpLe.refl _)                                 -- the stream had ended before
  -- otherwise one `copyRead`, which is given the fuel it needs whatever `fuel` is
  case case4 s _ _ s1 hc =>                                                -- nothing to read yet
    have a := (copyRead_ran (s.items.length + 1) s).1
    rw [hc] at a
    exact a.after (InpLe.refl s) (fun _ => Nat.lt_succ_self _)
  case case5 s _ _ s1 hc =>                                                -- CopyDone
    have a := (copyRead_ran (s.items.length + 1) s).1
    rw [hc] at a
    exact .done a.le
  case case6 s _ _ e s1 hc =>                                              -- its error is passed on
    have a := (copyRead_ran (s.items.length + 1) s).1
    rw [hc] at a
    exact .failed a.le (a.nf e rfl)
  case case7 s _ _ p s1 hc ih =>
    -- CopyData: an item has gone, so one unit less of `fuel` is enough for the rest
    obtain ⟨a, hd⟩ := copyRead_ran (s.items.length + 1) s
    rw [hc] at a hd
    have hlt : s1.items.length < s.items.length := hd p rfl
    exact ih.after (a.le.trans (InpLe.msg s1 [])) (fun hf => by dsimp only; omega)

/-- `BinaryCopyReader.fill` -/
theorem binFill_spec (size : Nat) : ∀ (fuel : Nat) (b : Bin) (s : Inp),
    InpLe s (binFill size fuel b s).2.2 ∧
    (s.tail ≠ .wait → s.items.length < fuel → ∀ b' s', binFill size fuel b s ≠ (.blocked, b', s')) := by
  intro fuel b s
  have h := binFill_ran size fuel b s
  exact ⟨h.le, fun ht hf b' s' he => h.live ht hf (by rw [he]; rfl)⟩

def Good {R : Type} (blocked : R → Prop) (f : Bin → Inp → R × Bin × Inp) : Prop :=
  ∀ b s, InpLe s (f b s).2.2 ∧ (s.tail ≠ .wait → ¬ blocked (f b s).1)

theorem binFill_fuelled (size : Nat) (b : Bin) (s : Inp) :
    Ran s (binFill size (binFuel s) b s).1.kind (binFill size (binFuel s) b s).2.2 :=
  (binFill_ran size (binFuel s) b s).after (InpLe.refl s) (fun _ => by unfold binFuel; omega)

/- Below, a reader is unfolded and the result of the step it calls is brought into constructor form; the `kind` of
   what the reader returns then reduces to a constructor, and where the reader passes the callee's outcome on, the
   callee's fact is the answer as it stands (`exact h`). -/

theorem binTake_ran (size : Nat) (b : Bin) (s : Inp) :
    Ran s (binTake size b s).1.kind (binTake size b s).2.2 := by
  have h := binFill_fuelled size b s
  unfold binTake
  generalize binFill size (binFuel s) b s = x at h
  rcases x with ⟨r, b1, s1⟩
  cases r with
  | ok => exact h
  | eof => exact h.fail errUnexpectedEOF_nf
  | err e => exact h
  | blocked => exact h

theorem binTakeLength_ran (b : Bin) (s : Inp) :
    Ran s (binTakeLength b s).1.kind (binTakeLength b s).2.2 := by
  have h := binTake_ran 4 b s
  unfold binTakeLength
  generalize binTake 4 b s = x at h
  rcases x with ⟨r, b1, s1⟩
  cases r with
  | err e => exact h
  | blocked => exact h
  | ok v =>
    dsimp only
    split
    · split
      · exact h.fail (errLengthExceeds_nf _ _)
      · exact h
    · exact h.fail errUnexpectedEOF_nf

theorem binFields_ran : ∀ (oids : List Nat) (b : Bin) (s : Inp),
    Ran s (binFields oids b s).1.kind (binFields oids b s).2.2
  | [], b, s => .done (InpLe.refl s)
  | oid :: oids, b, s => by
    have h := binTakeLength_ran b s
    unfold binFields
    generalize binTakeLength b s = x at h
    rcases x with ⟨r, b1, s1⟩
    cases r with
    | blocked => exact h
    | err e => exact h.wrap _ nf_fieldLen
    | ok len =>
      dsimp only
      split
      · have h2 := h.andThen (binFields_ran oids b1 s1)
        generalize binFields oids b1 s1 = x at h2
        rcases x with ⟨r2, b2, s2⟩
        cases r2 <;> exact h2
      · have h3 := h.andThen (binTake_ran len b1 s1)
        generalize binTake len b1 s1 = x at h3
        rcases x with ⟨r3, b3, s3⟩
        cases r3 with
        | blocked => exact h3
        | err e => exact h3.wrap _ nf_value
        | ok v =>
          dsimp only
          split
          · exact h3
          · exact h3.fail trivial
          · have h2 := h3.andThen (binFields_ran oids b3 s3)
            generalize binFields oids b3 s3 = x at h2
            rcases x with ⟨r2, b2, s2⟩
            cases r2 <;> exact h2

theorem binHeaderRest_ran (b : Bin) (s : Inp) : Ran s (binHeaderRest b s).1.kind (binHeaderRest b s).2.2 := by
  have h := binTake_ran (copySignature.length + 4) b s
  unfold binHeaderRest
  generalize binTake (copySignature.length + 4) b s = x at h
  rcases x with ⟨r, b1, s1⟩
  cases r with
  | blocked => exact h
  | err e => exact h
  | ok v =>
    have h2 := h.andThen (binTakeLength_ran b1 s1)
    dsimp only
    generalize binTakeLength b1 s1 = x at h2
    rcases x with ⟨r2, b2, s2⟩
    cases r2 with
    | blocked => exact h2
    | err e => exact h2
    | ok ext =>
      dsimp only
      split
      · exact h2.fail nf_extArea
      · have h3 := h2.andThen (binTake_ran ext b2 s2)
        generalize binTake ext b2 s2 = x at h3
        rcases x with ⟨r3, b3, s3⟩
        cases r3 <;> exact h3

theorem binSkipHeader_ran (b : Bin) (s : Inp) : Ran s (binSkipHeader b s).1.kind (binSkipHeader b s).2.2 := by
  have h := binFill_fuelled copySignature.length b s
  have hc (b1 : Bin) (s1 : Inp) (h : Ran s .ok s1) : Ran s (binHeaderCheck b1 s1).1.kind (binHeaderCheck b1 s1).2.2 := by
    unfold binHeaderCheck
    split
    · exact h
    · exact h.andThen (binHeaderRest_ran b1 s1)
  unfold binSkipHeader
  generalize binFill copySignature.length (binFuel s) b s = x at h
  rcases x with ⟨r, b1, s1⟩
  cases r with
  | blocked => exact h
  | err e => exact h
  | eof => exact hc b1 s1 h
  | ok => exact hc b1 s1 h

theorem binRowBody_ran (b : Bin) (s : Inp) : Ran s (readKind (binRowBody b s).1) (binRowBody b s).2.2 := by
  have h := binTake_ran 2 b s
  unfold binRowBody
  generalize binTake 2 b s = x at h
  rcases x with ⟨r, b1, s1⟩
  cases r with
  | blocked => exact h
  | err e => exact h
  | ok v =>
    dsimp only
    split
    · have h2 := h.andThen (binFill_fuelled 1 b1 s1)
      generalize binFill 1 (binFuel s1) b1 s1 = x at h2
      rcases x with ⟨r2, b2, s2⟩
      cases r2 with
      | blocked => exact h2
      | eof => exact h2
      | err e => exact h2
      | ok => exact h2.fail nf_trailer
    · split
      · exact h.fail (errFieldCount_nf _ _)
      · have h2 := h.andThen (binFields_ran b1.oids b1 s1)
        generalize binFields b1.oids b1 s1 = x at h2
        rcases x with ⟨r2, b2, s2⟩
        cases r2 with
        | blocked => exact h2
        | unsupported => exact h2.unsup.fail trivial
        | err e => exact h2
        | ok vals => exact h2

theorem binRowStart_ran (b : Bin) (s : Inp) : Ran s (readKind (binRowStart b s).1) (binRowStart b s).2.2 := by
  have h := binFill_fuelled 2 b s
  unfold binRowStart
  generalize binFill 2 (binFuel s) b s = x at h
  rcases x with ⟨r, b1, s1⟩
  cases r with
  | blocked => exact h
  | err e => exact h
  | eof =>
    dsimp only
    split
    · exact h
    · exact h.andThen (binRowBody_ran b1 s1)
  | ok => exact h.andThen (binRowBody_ran b1 s1)

theorem binRead_ran (b : Bin) (s : Inp) : Ran s (readKind (binRead b s).1) (binRead b s).2.2 := by
  unfold binRead
  split
  · exact binRowStart_ran b s
  · have h := binSkipHeader_ran { b with started := true } s
    generalize binSkipHeader { b with started := true } s = x at h
    rcases x with ⟨r, b1, s1⟩
    cases r with
    | blocked => exact h
    | err e => exact h.wrap _ nf_header
    | ok => exact h.andThen (binRowStart_ran b1 s1)

theorem binRead_good : Good (fun r => r = (none : Option BinRes)) binRead := by
  intro b s
  exact ⟨(binRead_ran b s).le, fun ht hb => (binRead_ran b s).live ht trivial (by rw [hb]; rfl)⟩

theorem binRead_nf (b : Bin) (s : Inp) (r : BinRes) (b' : Bin) (s' : Inp)
    (h : binRead b s = (some r, b', s')) : BinResNF r := by
  have hn := (binRead_ran b s).nf
  rw [h] at hn
  cases r with
  | err e => exact hn e rfl
  | row vals => trivial
  | eof => trivial

end Pw
