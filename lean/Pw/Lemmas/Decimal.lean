import Pw.Model.Codec
/- decimal text: `strconv.ParseInt` inverts `strconv.FormatInt` -/
namespace Pw

def dstep (acc : Option Nat) (d : UInt8) : Option Nat :=
  match acc with
  | none => none
  | some n => if 48 ≤ d.toNat ∧ d.toNat ≤ 57 then some (n * 10 + (d.toNat - 48)) else none

theorem parseDigits_eq {ds : Bytes} (h : ds ≠ []) : parseDigits ds = ds.foldl dstep (some 0) := by
  cases ds with
  | nil => simp at h
  | cons d r => rfl

theorem digit_toNat {d : Nat} (h : d < 10) : (UInt8.ofNat (48 + d)).toNat = 48 + d := by
  rw [UInt8.toNat_ofNat']
  omega

theorem dstep_digit (m : Nat) {d : Nat} (h : d < 10) :
    dstep (some m) (UInt8.ofNat (48 + d)) = some (m * 10 + d) := by
  rw [dstep, digit_toNat h, if_pos (by omega), Nat.add_sub_cancel_left]

theorem natDigits_spec : ∀ (fuel n : Nat), n < fuel →
    (natDigits fuel n).foldl dstep (some 0) = some n ∧ natDigits fuel n ≠ [] ∧
    ∀ b ∈ natDigits fuel n, 48 ≤ b.toNat ∧ b.toNat ≤ 57 := by
  intro fuel
  induction fuel with
  | zero => intro n h; omega
  | succ f ih =>
    intro n h
    have hd : ∀ d < 10, ∀ b ∈ [UInt8.ofNat (48 + d)], 48 ≤ b.toNat ∧ b.toNat ≤ 57 := by
      intro d hd b hb
      rw [List.mem_singleton.mp hb, digit_toNat hd]
      omega
    unfold natDigits
    by_cases h10 : n < 10
    · rw [if_pos h10]
      refine ⟨?_, List.cons_ne_nil _ _, hd n h10⟩
      rw [List.foldl_cons, List.foldl_nil, dstep_digit 0 h10, Nat.zero_mul, Nat.zero_add]
    · rw [if_neg h10]
      obtain ⟨a, -, c⟩ := ih (n / 10) (by omega)
      refine ⟨?_, by simp, List.forall_mem_append.mpr ⟨c, hd (n % 10) (Nat.mod_lt n (by omega))⟩⟩
      rw [List.foldl_append, a, List.foldl_cons, List.foldl_nil, dstep_digit _ (Nat.mod_lt n (by omega)),
        Nat.mul_comm, Nat.div_add_mod]

theorem splitSign_digit (x : UInt8) (r : Bytes) (hx : 48 ≤ x.toNat ∧ x.toNat ≤ 57) : splitSign (x :: r) = (false, x :: r) := by
  unfold splitSign
  split
  · rename_i heq; simp at heq; obtain ⟨rfl, _⟩ := heq; simp at hx
  · rename_i heq; simp at heq; obtain ⟨rfl, _⟩ := heq; simp at hx
  · rfl

/-- `strconv.ParseUint` inverts `strconv.Itoa`, and finds no sign to strip -/
theorem decNat_spec (n : Nat) : parseDigits (decNat n) = some n ∧ splitSign (decNat n) = (false, decNat n) := by
  obtain ⟨a, b, c⟩ := natDigits_spec (n + 1) n (Nat.lt_succ_self n)
  refine ⟨by rw [decNat, parseDigits_eq b]; exact a, ?_⟩
  rw [decNat]
  cases hd : natDigits (n + 1) n with
  | nil => exact absurd hd b
  | cons x r => exact splitSign_digit x r (c x (by rw [hd]; exact List.mem_cons_self))

theorem parseIntText_decInt (i lo hi : Int) (h1 : lo ≤ i) (h2 : i ≤ hi) : parseIntText (decInt i) lo hi = some i := by
  unfold decInt
  by_cases hn : i < 0
  · have hs : splitSign (45 :: decNat i.natAbs) = (true, decNat i.natAbs) := rfl
    have hv : -(i.natAbs : Int) = i := by omega
    rw [if_pos hn, parseIntText, hs, (decNat_spec i.natAbs).1]
    simp only [signed, if_true, hv]
    rw [if_neg (by omega)]
  · have hv : ((i.toNat : Nat) : Int) = i := by omega
    rw [if_neg hn, parseIntText, (decNat_spec i.toNat).2, (decNat_spec i.toNat).1]
    simp only [signed, Bool.false_eq_true, if_false, hv]
    rw [if_neg (by omega)]
end Pw
