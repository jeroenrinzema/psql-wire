import Pw.Lemmas.Progress
/-
  What a handler program can do to the session around it.  Whatever the program, the session it
  leaves behind is reached from the one it found by writes of result messages, logged observations
  and reads (`Reach`, `runProg_reach`); every frame condition of a run is an induction over that.
-/
namespace Pw

theorem InpLe.items_le {a b : Inp} (h : InpLe a b) : b.items.length ≤ a.items.length := h.1

theorem InpLe.ended {a b : Inp} (h : InpLe a b) (ht : a.tail ≠ .wait) : b.tail ≠ .wait := h.2.2 ht

def isDCG (m : BMsg) : Bool := match m with | .dataRow _ | .complete _ | .copyIn _ _ => true | _ => false

def isTDCG (m : BMsg) : Bool := match m with | .rowDesc _ => true | m => isDCG m

theorem isTDCG_of_isDCG (m : BMsg) (h : isDCG m = true) : isTDCG m = true := by
  unfold isTDCG
  split
  · rfl
  · exact h

def isCallback : Event → Bool | .parse _ => true | .exec _ _ _ => true | _ => false

/-- what a run adds to the output and to the event trace -/
structure Adds (s s' : Sess) (new : List BMsg) (nev : List Event) : Prop where
  out : s'.out = new ++ s.out
  ev : s'.ev = nev ++ s.ev
  wl : s.wleft = none → s'.wleft = none
  stmts : s'.stmts = s.stmts
  portals : s'.portals = s.portals
  discard : s'.discard = s.discard

theorem Adds.refl (s : Sess) : Adds s s [] [] := ⟨rfl, rfl, id, rfl, rfl, rfl⟩

theorem Adds.trans {a b c : Sess} {n1 n2 : List BMsg} {e1 e2 : List Event}
    (h1 : Adds a b n1 e1) (h2 : Adds b c n2 e2) : Adds a c (n2 ++ n1) (e2 ++ e1) :=
  ⟨by rw [h2.out, h1.out, List.append_assoc], by rw [h2.ev, h1.ev, List.append_assoc], fun h => h2.wl (h1.wl h),
   h2.stmts.trans h1.stmts, h2.portals.trans h1.portals, h2.discard.trans h1.discard⟩

theorem Adds.log (s : Sess) (e : Event) : Adds s (s.log e) [] [e] := ⟨rfl, rfl, id, rfl, rfl, rfl⟩

theorem Adds.setMsg (s : Sess) (m : Bytes) : Adds s (s.setMsg m) [] [] := ⟨rfl, rfl, id, rfl, rfl, rfl⟩

theorem Adds.sent {s : Sess} {new : List BMsg} {w : Option Nat} (hw : s.wleft = none → w = none) :
    Adds s { s with out := new ++ s.out, wleft := w } new [] := ⟨rfl, rfl, hw, rfl, rfl, rfl⟩

/-- What a statement function can do to the session through the `DataWriter`/`CopyReader` API:
    have a DataRow / CommandComplete / CopyInResponse written, have an observation logged that is
    not a callback, read.  (A write that fails changes nothing, so it needs no constructor.) -/
inductive Reach : Sess → Sess → Prop
  | refl (s : Sess) : Reach s s
  | sent {s s' : Sess} (m : BMsg) (hm : isDCG m = true) (w : Option Nat) (hw : s.wleft = none → w = none)
      (h : Reach { s with out := m :: s.out, wleft := w } s') : Reach s s'
  | log {s s' : Sess} (e : Event) (he : isCallback e = false) (h : Reach (s.log e) s') : Reach s s'
  | read {s s' : Sess} (i : Inp) (hi : InpLe s.inp i) (h : Reach { s with inp := i } s') : Reach s s'

namespace Reach

theorem trans {a b c : Sess} (h1 : Reach a b) (h2 : Reach b c) : Reach a c := by
  induction h1 with
  | refl => exact h2
  | sent m hm w hw _ ih => exact .sent m hm w hw (ih h2)
  | log e he _ ih => exact .log e he (ih h2)
  | read i hi _ ih => exact .read i hi (ih h2)

theorem send {s s1 : Sess} {m : BMsg} {ok : Bool} (hm : isDCG m = true) (h : s.send m = (s1, ok)) :
    Reach s s1 := by
  cases ok with
  | true => obtain ⟨w, hw, rfl⟩ := send_true h; exact .sent m hm w hw (.refl _)
  | false => rw [(send_false h).1]; exact .refl s

theorem markUnsup (s : Sess) : Reach s s.markUnsup :=
  .read { s.inp with unsup := true } ⟨Nat.le_refl _, rfl, id⟩ (.refl _)

/-- one library call (`s` to `s1`), its logged answer, the rest of the run -/
theorem step {s s1 s2 : Sess} (h1 : Reach s s1) (e : Event) (he : isCallback e = false)
    (h2 : Reach (s1.log e) s2) : Reach s s2 := h1.trans (.log e he h2)

theorem inp {s s' : Sess} (h : Reach s s') : InpLe s.inp s'.inp := by
  induction h with
  | refl => exact InpLe.refl _
  | sent _ _ _ _ _ ih => exact ih
  | log _ _ _ ih => exact ih
  | read _ hi _ ih => exact hi.trans ih

theorem adds {s s' : Sess} (h : Reach s s') :
    ∃ new nev, Adds s s' new nev ∧ (∀ m ∈ new, isDCG m = true) ∧ nev.countP isCallback = 0 := by
  induction h with
  | refl s => exact ⟨[], [], Adds.refl s, by simp, rfl⟩
  | sent m hm w hw _ ih =>
    obtain ⟨new, nev, a, b, c⟩ := ih
    exact ⟨new ++ [m], nev, by simpa using (Adds.sent (new := [m]) hw).trans a,
      List.forall_mem_append.mpr ⟨b, List.forall_mem_singleton.mpr hm⟩, c⟩
  | log e he _ ih =>
    obtain ⟨new, nev, a, b, c⟩ := ih
    exact ⟨new, nev ++ [e], by simpa using (Adds.log _ e).trans a, b, by simp [List.countP_append, c, he]⟩
  | read i _ _ ih =>
    obtain ⟨new, nev, a, b, c⟩ := ih
    exact ⟨new, nev, ⟨a.out, a.ev, a.wl, a.stmts, a.portals, a.discard⟩, b, c⟩

theorem count {s s' : Sess} (h : Reach s s') (f : BMsg → Bool) (hf : ∀ m, isDCG m = true → f m = false) :
    s'.out.countP f = s.out.countP f := by
  induction h with
  | refl => rfl
  | sent m hm _ _ _ ih => rw [ih]; simp [hf m hm]
  | log _ _ _ ih => exact ih
  | read _ _ _ ih => exact ih

end Reach

theorem dwRow_reach {d d' : DW} {s s' : Sess} {vals : List Val} {x : RowOut}
    (h : dwRow d s vals = (x, d', s')) : Reach s s' := by
  revert h
  refine dwRow_cases (P := fun r => r = (x, d', s') → Reach s s') d s vals ?_ ?_ ?_
  · rintro _ _ _ (rfl | rfl) h
    · cases h; exact .refl _
    · cases h; exact .markUnsup _
  · intro _ _ _ h; cases h; exact .refl _
  · intro _ _ _ _ hs h; cases h; exact .send rfl hs

theorem dwComplete_reach {d d' : DW} {s s' : Sess} {tag : Bytes} {r : Option OpErr}
    (h : dwComplete d s tag = (r, d', s')) : Reach s s' := by
  revert h
  refine dwComplete_cases (P := fun x => x = (r, d', s') → Reach s s') d s tag ?_ ?_ ?_
  · intro _ h; cases h; exact .refl _
  · intro _ h; cases h; exact .refl _
  · intro _ _ hs h; cases h; exact .send rfl hs

theorem dwCopyIn_reach {d d' : DW} {s s' : Sess} {fmt : Nat} {r : Option OpErr}
    (h : dwCopyIn d s fmt = (r, d', s')) : Reach s s' := by
  revert h
  refine dwCopyIn_cases (P := fun x => x = (r, d', s') → Reach s s') d s fmt ?_ ?_
  · intro _ _ h; cases h; exact .refl _
  · intro s1 _ _ hs h
    cases h
    exact (Reach.send rfl hs).trans (.read _ (InpLe.msg _ _) (.refl _))

theorem copyRead_le {s i : Inp} {r : Option CopyRes} (h : copyRead (s.items.length + 1) s = (r, i)) :
    InpLe s i := by
  have := (copyRead_spec (s.items.length + 1) s).1
  rwa [h] at this

theorem binRead_le {b b' : Bin} {s i : Inp} {r : Option BinRes} (h : binRead b s = (r, b', i)) :
    InpLe s i := by
  have := (binRead_good b s).1
  rwa [h] at this

/-- **the frame of a statement function**: every handler program leaves the session in a state
    `Reach`ed from the one it found -/
theorem runProg_reach (p : Prog) (d : DW) (s : Sess) : Reach s (runProg p d s).2 := by
  fun_induction runProg p d s with
  | case1 => exact .refl _                                                                    -- ret
  | case2 n k d s ih => exact .log _ rfl ih                                                   -- note
  | case3 vals k d s msg d' s' hrow => exact dwRow_reach hrow                                 -- row, panic
  | case4 vals k d s r d' s' hrow ih => exact (dwRow_reach hrow).step _ rfl ih                -- row
  | case5 tag k d s r d' s' hcomplete ih => exact (dwComplete_reach hcomplete).step _ rfl ih  -- complete
  | case6 k d s r d' hempty ih => exact .log _ rfl ih                                         -- empty
  | case7 k d s ih => exact .log _ rfl ih                                                     -- written
  | case8 fmt k d s r d' s' hcopyIn ih => exact (dwCopyIn_reach hcopyIn).step _ rfl ih        -- copyIn
  | case9 k d s hcopy ih => exact .log _ rfl ih                                               -- copyRead, no reader
  | case10 k d s hcopy i hread => exact .read i (copyRead_le hread) (.refl _)                 -- copyRead, blocked
  | case11 k d s hcopy r i hread ih => exact .read i (copyRead_le hread) (.log _ rfl ih)      -- copyRead
  | case12 k d s hcopy ih => exact .log _ rfl ih                                              -- binNew, no reader
  | case13 k d s hcopy s1 ih =>                                                               -- binNew
    refine Reach.step (s1 := s1) ?_ _ rfl ih
    simp only [s1]
    split
    · exact .refl s
    · exact .markUnsup s
  | case14 k d s hbin ih => exact .log _ rfl ih                                               -- binRead, no reader
  | case15 k d s b hbin b' i hread => exact .read i (binRead_le hread) (.refl _)              -- binRead, blocked
  | case16 k d s b hbin r b' i hread ih => exact .read i (binRead_le hread) (.log _ rfl ih)   -- binRead

/-- every handler program only consumes input, and blocks only on a merely waiting stream -/
theorem runProg_progress : ∀ (p : Prog) (d : DW) (s : Sess),
    InpLe s.inp (runProg p d s).2.inp ∧ (s.inp.tail ≠ .wait → (runProg p d s).1 ≠ .blocked) := by
  intro p d s
  refine ⟨(runProg_reach p d s).inp, fun ht => ?_⟩
  -- an ended stream stays ended along the run (`InpLe`), and on an ended stream no reader blocks
  fun_induction runProg p d s with
  | case1 => simp
  | case3 => simp
  | case4 vals k d s r d' s' hrow ih => exact ih ((dwRow_reach hrow).inp.ended ht)
  | case5 tag k d s r d' s' hcomplete ih => exact ih ((dwComplete_reach hcomplete).inp.ended ht)
  | case8 fmt k d s r d' s' hcopyIn ih => exact ih ((dwCopyIn_reach hcopyIn).inp.ended ht)
  | case10 k d s hcopy i hread =>
    have := (copyRead_spec (s.inp.items.length + 1) s.inp).2.2 ht (by omega)
    rw [hread] at this
    exact absurd rfl this
  | case11 k d s hcopy r i hread ih => exact ih ((copyRead_le hread).ended ht)
  | case13 k d s hcopy s1 ih =>
    refine ih ?_
    simp only [s1]
    split <;> exact ht
  | case15 k d s b hbin b' i hread =>
    have := (binRead_good b s.inp).2 ht
    rw [hread] at this
    exact absurd rfl this
  | case16 k d s b hbin r b' i hread ih => exact ih ((binRead_le hread).ended ht)
  | case2 n k d s ih => exact ih ht
  | case6 k d s r d' hempty ih => exact ih ht
  | case7 k d s ih => exact ih ht
  | case9 k d s hcopy ih => exact ih ht
  | case12 k d s hcopy ih => exact ih ht
  | case14 k d s hbin ih => exact ih ht

end Pw
