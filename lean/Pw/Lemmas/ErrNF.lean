import Pw.Spec.Errors
import Pw.Model.Session
import Pw.Lemmas.Bytes
/-
  NUL-freeness of every text the library itself puts into an error: a NUL cannot be carried by
  an ErrorResponse field.  The texts are literals, decimal renderings and names cut out of
  NUL-terminated fields; a literal is checked character by character (`nulFree_ascii _ rfl`).
-/
namespace Pw
open Pw.Spec

theorem digit_ne_zero (d : Nat) (h : d < 10) : UInt8.ofNat (48 + d) ≠ 0 := by
  intro h0
  have := congrArg UInt8.toNat h0
  simp [UInt8.toNat_ofNat'] at this
  omega

theorem nulFree_natDigits : ∀ fuel n, nulFree (natDigits fuel n) := by
  intro fuel
  induction fuel with
  | zero => intro n; exact nulFree_nil
  | succ fuel ih =>
    intro n
    unfold natDigits
    split
    · exact List.forall_mem_singleton.mpr (digit_ne_zero n ‹_›)
    · exact nulFree_append (ih _) (List.forall_mem_singleton.mpr (digit_ne_zero (n % 10) (Nat.mod_lt _ (by decide))))

theorem nulFree_decNat (n : Nat) : nulFree (decNat n) := nulFree_natDigits _ _

theorem nulFree_decInt (i : Int) : nulFree (decInt i) := by
  unfold decInt
  split
  · exact List.forall_mem_cons.mpr ⟨by decide, nulFree_decNat _⟩
  · exact nulFree_decNat _

theorem levelError_nf : nulFree levelError := nulFree_ascii _ rfl
theorem levelFatal_nf : nulFree levelFatal := nulFree_ascii _ rfl
theorem uncategorized_nf : nulFree Err.uncategorized := nulFree_ascii _ rfl

/-- errors handed back by library calls: NUL-free when their text is known -/
def OpErrNF : OpErr → Prop
  | .lib e => errNulFree e
  | _ => True

def OptNF (r : Option OpErr) : Prop := ∀ e, r = some e → OpErrNF e

theorem OptNF.none : OptNF none := nofun

theorem OptNF.some {e : OpErr} (h : OpErrNF e) : OptNF (some e) := fun _ he => by cases he; exact h

def CopyResNF : CopyRes → Prop
  | .err e => OpErrNF e
  | _ => True

def BinResNF : BinRes → Prop
  | .err e => OpErrNF e
  | _ => True

theorem mkErr_nf (t c : List Char) (sev : Bytes) (ht : t.all (fun c => c.toNat % 256 != 0) = true)
    (hc : c.all (fun c => c.toNat % 256 != 0) = true) (hs : nulFree sev) :
    errNulFree (mkErr (String.ofList t) (String.ofList c) sev) :=
  ⟨hs, nulFree_ascii c hc, nulFree_ascii t ht⟩

theorem errUnexpectedEOF_nf : errNulFree errUnexpectedEOF := nulFree_ascii _ rfl
theorem errRead_nf : errNulFree errRead := nulFree_ascii _ rfl
theorem errWrite_nf : errNulFree errWrite := nulFree_ascii _ rfl
theorem errClosedWriter_nf : errNulFree errClosedWriter := nulFree_ascii _ rfl
theorem errDataWritten_nf : errNulFree errDataWritten := nulFree_ascii _ rfl
theorem errNoColumns_nf : errNulFree errNoColumns := nulFree_ascii _ rfl
theorem errInvalidPassword_nf : errNulFree errInvalidPassword := ⟨nulFree_ascii _ rfl, nulFree_ascii _ rfl⟩
theorem errMissingNul_nf : errNulFree errMissingNul := mkErr_nf _ _ _ rfl rfl levelFatal_nf
theorem errUndefinedStatement_nf : errNulFree errUndefinedStatement := mkErr_nf _ _ _ rfl rfl levelError_nf
theorem errMultipleCommands_nf : errNulFree errMultipleCommands := mkErr_nf _ _ _ rfl rfl levelError_nf

theorem errSizeExceeded_nf (L : Nat) (size : Int) : errNulFree (errSizeExceeded L size) :=
  ⟨levelError_nf, nulFree_ascii _ rfl,
    nulFree_append (nulFree_append (nulFree_append (nulFree_ascii _ rfl) (nulFree_decInt _)) (nulFree_ascii _ rfl))
      (nulFree_decNat _)⟩

theorem errUnimplemented_nf (t : UInt8) : errNulFree (errUnimplemented t) :=
  ⟨levelFatal_nf, nulFree_ascii _ rfl, nulFree_append (nulFree_ascii _ rfl) (nulFree_decNat _)⟩

theorem errCopyFailed_nf (desc : Bytes) (h : nulFree desc) : errNulFree (errCopyFailed desc) :=
  ⟨levelError_nf, uncategorized_nf, nulFree_append (nulFree_ascii _ rfl) h⟩

theorem errUnknownStatement_nf (n : Bytes) (h : nulFree n) : errNulFree (errUnknownStatement n) :=
  ⟨levelFatal_nf, nulFree_ascii _ rfl, nulFree_append (nulFree_ascii _ rfl) h⟩

theorem errUnknownPortal_nf (n : Bytes) (h : nulFree n) : errNulFree (errUnknownPortal n) :=
  ⟨levelError_nf, nulFree_ascii _ rfl, nulFree_append (nulFree_ascii _ rfl) h⟩

theorem errArity_nf (a b : Nat) : errNulFree (errArity a b) :=
  nulFree_append (nulFree_append (nulFree_append (nulFree_append (nulFree_ascii _ rfl) (nulFree_decNat _))
    (nulFree_ascii _ rfl)) (nulFree_decNat _)) (nulFree_ascii _ rfl)

theorem errLengthExceeds_nf (a b : Nat) : errNulFree (errLengthExceeds a b) :=
  nulFree_append (nulFree_append (nulFree_append (nulFree_ascii _ rfl) (nulFree_decNat _)) (nulFree_ascii _ rfl))
    (nulFree_decNat _)

theorem errFieldCount_nf (a b : Nat) : errNulFree (errFieldCount a b) :=
  nulFree_append (nulFree_append (nulFree_append (nulFree_append (nulFree_ascii _ rfl) (nulFree_decNat _))
    (nulFree_ascii _ rfl)) (nulFree_decNat _)) (nulFree_ascii _ rfl)

theorem panicText_nf (f : Nat) : nulFree (panicText f) :=
  nulFree_append (nulFree_append (nulFree_ascii _ rfl) (nulFree_decInt _)) (nulFree_ascii _ rfl)

theorem errNoReader_nf : OpErrNF errNoReader := nulFree_ascii _ rfl

/-! ### texts of the binary COPY reader -/

theorem wrapOp_nf (pre : String) (e : OpErr) (hp : nulFree (ascii pre)) (h : OpErrNF e) : OpErrNF (wrapOp pre e) := by
  cases e with
  | lib x => exact ⟨hp, nulFree_nil, h⟩
  | pgxEnc => trivial
  | pgxDec => trivial

theorem nf_fieldLen : nulFree (ascii "unexpected field length: ") := nulFree_ascii _ rfl
theorem nf_value : nulFree (ascii "unexpected value: ") := nulFree_ascii _ rfl
theorem nf_header : nulFree (ascii "unexpected header: ") := nulFree_ascii _ rfl
theorem nf_extArea : nulFree (ascii "unexpected header extension area length") := nulFree_ascii _ rfl
theorem nf_trailer : nulFree (ascii "unexpected copy data after the file trailer") := nulFree_ascii _ rfl

end Pw
