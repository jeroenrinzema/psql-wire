import Pw.Model.Bytes
namespace Pw

@[simp] theorem be16_length (n : Nat) : (be16 n).length = 2 := rfl
@[simp] theorem be32_length (n : Nat) : (be32 n).length = 4 := rfl

theorem toNat_ofNat_mod (k : Nat) : (UInt8.ofNat (k % 256)).toNat = k % 256 := by
  rw [UInt8.toNat_ofNat', Nat.mod_mod]

theorem be16_of_bytes (a b : UInt8) (n : Nat) (hn : n = a.toNat * 256 + b.toNat) : be16 n = [a, b] ∧ n < 65536 := by
  have ha := a.toNat_lt
  have hb := b.toNat_lt
  have : n / 256 % 256 = a.toNat ∧ n % 256 = b.toNat := by omega
  rw [be16, this.1, this.2, UInt8.ofNat_toNat, UInt8.ofNat_toNat]
  exact ⟨rfl, by omega⟩

theorem rd16_eq_some {m : Bytes} {n : Nat} {r : Bytes} : rd16 m = some (n, r) ↔ m = be16 n ++ r ∧ n < 65536 := by
  constructor
  · intro h
    match m, h with
    | a :: b :: r', h =>
      simp only [rd16, Option.some.injEq, Prod.mk.injEq] at h
      obtain ⟨rfl, rfl⟩ := h
      rw [(be16_of_bytes a b _ rfl).1]
      exact ⟨rfl, (be16_of_bytes a b _ rfl).2⟩
  · rintro ⟨rfl, h⟩
    have e : n / 256 % 256 * 256 + n % 256 = n := by omega
    rw [be16, List.cons_append, List.cons_append, List.nil_append, rd16, toNat_ofNat_mod, toNat_ofNat_mod, e]

theorem rd16_be16 (n : Nat) (h : n < 65536) (r : Bytes) : rd16 (be16 n ++ r) = some (n, r) :=
  rd16_eq_some.mpr ⟨rfl, h⟩

theorem rd16_be16' (n : Nat) (h : n < 65536) : rd16 (be16 n) = some (n, []) := by
  have := rd16_be16 n h []
  rwa [List.append_nil] at this

/-- the four index computations of `be32` in one `omega` call: they share the case analysis of the divisions -/
theorem be32_of_bytes (a b c d : UInt8) (n : Nat)
    (hn : n = a.toNat * 16777216 + b.toNat * 65536 + c.toNat * 256 + d.toNat) :
    be32 n = [a, b, c, d] ∧ n < 4294967296 := by
  have ha := a.toNat_lt
  have hb := b.toNat_lt
  have hc := c.toNat_lt
  have hd := d.toNat_lt
  have : n / 16777216 % 256 = a.toNat ∧ n / 65536 % 256 = b.toNat ∧ n / 256 % 256 = c.toNat ∧ n % 256 = d.toNat := by
    omega
  rw [be32, this.1, this.2.1, this.2.2.1, this.2.2.2, UInt8.ofNat_toNat, UInt8.ofNat_toNat, UInt8.ofNat_toNat,
    UInt8.ofNat_toNat]
  exact ⟨rfl, by omega⟩

theorem rd32_eq_some {m : Bytes} {n : Nat} {r : Bytes} :
    rd32 m = some (n, r) ↔ m = be32 n ++ r ∧ n < 4294967296 := by
  constructor
  · intro h
    match m, h with
    | a :: b :: c :: d :: r', h =>
      simp only [rd32, Option.some.injEq, Prod.mk.injEq] at h
      obtain ⟨rfl, rfl⟩ := h
      rw [(be32_of_bytes a b c d _ rfl).1]
      exact ⟨rfl, (be32_of_bytes a b c d _ rfl).2⟩
  · rintro ⟨rfl, h⟩
    have e : n / 16777216 % 256 * 16777216 + n / 65536 % 256 * 65536 + n / 256 % 256 * 256 + n % 256 = n := by
      omega
    rw [be32, List.cons_append, List.cons_append, List.cons_append, List.cons_append, List.nil_append, rd32,
      toNat_ofNat_mod, toNat_ofNat_mod, toNat_ofNat_mod, toNat_ofNat_mod, e]

theorem rd32_be32 (n : Nat) (h : n < 4294967296) (r : Bytes) : rd32 (be32 n ++ r) = some (n, r) :=
  rd32_eq_some.mpr ⟨rfl, h⟩

theorem rd32_be32' (n : Nat) (h : n < 4294967296) : rd32 (be32 n) = some (n, []) := by
  have := rd32_be32 n h []
  rwa [List.append_nil] at this

theorem rd64_be64 (n : Nat) (h : n < 18446744073709551616) : rd64 (be64 n) = some (n, []) := by
  rw [rd64, be64, rd32_be32 _ (by omega)]
  dsimp only
  rw [rd32_be32' _ (by omega)]
  simp only [Option.some.injEq, Prod.mk.injEq, and_true]
  omega

theorem nulFree_nil : nulFree [] := fun _ hb => nomatch hb

theorem nulFree_append_iff {a b : Bytes} : nulFree (a ++ b) ↔ nulFree a ∧ nulFree b :=
  List.forall_mem_append

theorem nulFree_append {a b : Bytes} (ha : nulFree a) (hb : nulFree b) : nulFree (a ++ b) :=
  nulFree_append_iff.mpr ⟨ha, hb⟩

theorem cstr_append (s : Bytes) (h : nulFree s) (r : Bytes) : cstr (s ++ 0 :: r) = some (s, r) := by
  induction s with
  | nil => simp [cstr]
  | cons b s ih =>
    obtain ⟨hb, hs⟩ := List.forall_mem_cons.mp h
    simp [cstr, hb, ih hs]

theorem cstr_append' (s : Bytes) (h : nulFree s) (r : Bytes) : cstr (s ++ [0] ++ r) = some (s, r) := by
  simpa using cstr_append s h r

theorem cstr_append'' (s : Bytes) (h : nulFree s) (r : Bytes) : cstr (s ++ ([0] ++ r)) = some (s, r) := by
  simpa using cstr_append s h r

theorem cstr_inv : ∀ (m s r : Bytes), cstr m = some (s, r) → m = s ++ 0 :: r ∧ nulFree s := by
  intro m
  induction m with
  | nil => intro s r h; simp [cstr] at h
  | cons b m ih =>
    intro s r h
    rw [cstr] at h
    by_cases hb : b = 0
    · rw [if_pos hb] at h
      cases h
      exact ⟨by rw [hb]; rfl, fun x hx => nomatch hx⟩
    · rw [if_neg hb] at h
      cases hc : cstr m with
      | none => rw [hc] at h; cases h
      | some p =>
        rw [hc] at h
        cases h
        obtain ⟨e, hs⟩ := ih p.1 p.2 hc
        exact ⟨by rw [e]; rfl, List.forall_mem_cons.mpr ⟨hb, hs⟩⟩

theorem cstr_nulFree : ∀ (m s r : Bytes), cstr m = some (s, r) → nulFree s :=
  fun m s r h => (cstr_inv m s r h).2

theorem cstr_sound : ∀ (m s r : Bytes), cstr m = some (s, r) → m = s ++ 0 :: r := by
  intro m s r h
  exact (cstr_inv m s r h).1

/-- `ascii` of a literal, without `String.toList`: the unifier solves `"lit" =?= String.ofList ?l` by
    expanding the literal, so `rw [ascii_ofList]` turns `ascii "lit"` into a `List.map` over the
    characters.  Evaluating `ascii "lit"` itself decodes UTF-8 out of a byte array by index, which is
    quadratic in the length of the literal, in the kernel as in `decide`. -/
theorem ascii_ofList (l : List Char) : ascii (String.ofList l) = l.map fun c => UInt8.ofNat c.toNat := by
  rw [ascii, String.toList_ofList]

/-- NUL-freeness of a literal text by a check on its characters (`nulFree_ascii _ rfl`). -/
theorem nulFree_ascii (l : List Char) (h : l.all (fun c => c.toNat % 256 != 0) = true) :
    nulFree (ascii (String.ofList l)) := by
  rw [ascii_ofList]
  intro b hb
  obtain ⟨c, hc, rfl⟩ := List.mem_map.mp hb
  have := List.all_eq_true.mp h c hc
  intro h0
  have h1 := congrArg UInt8.toNat h0
  simp [UInt8.toNat_ofNat'] at h1 this
  exact this h1

end Pw
