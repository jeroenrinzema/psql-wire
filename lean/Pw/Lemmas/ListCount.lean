/-
  What the thread models (Model/Conc.lean, Model/ConcF.lean) need of lists: counting and membership
  under `List.set`, where one thread's program counter is replaced in the list of threads, and
  induction along a schedule.
-/
namespace Pw

theorem countP_set_add {α} (p : α → Bool) (l : List α) (i : Nat) (old new : α) (h : l[i]? = some old) :
    (l.set i new).countP p + (if p old then 1 else 0) = l.countP p + (if p new then 1 else 0) := by
  obtain ⟨hi, rfl⟩ := List.getElem?_eq_some_iff.mp h
  rw [List.countP_set hi]
  by_cases hp : p l[i] = true
  · have : 0 < l.countP p := List.countP_pos_iff.mpr ⟨_, List.getElem_mem hi, hp⟩
    rw [if_pos hp]; omega
  · rw [if_neg hp]; omega

theorem ite_le_countP {α} (p : α → Bool) {l : List α} {i : Nat} {a : α} (h : l[i]? = some a) :
    (if p a then 1 else 0) ≤ l.countP p := by
  split
  · exact List.countP_pos_iff.mpr ⟨a, List.mem_of_getElem? h, ‹_›⟩
  · exact Nat.zero_le _

theorem countP_pos_of_mem {α} (p : α → Bool) (l : List α) (x : α) (hx : x ∈ l) (hp : p x = true) : 0 < l.countP p :=
  List.countP_pos_iff.mpr ⟨x, hx, hp⟩

theorem index_of_countP_pos {α} {p : α → Bool} {l : List α} (h : 0 < l.countP p) :
    ∃ (k : Nat) (x : α), l[k]? = some x ∧ p x = true := by
  obtain ⟨x, hx, hp⟩ := List.countP_pos_iff.mp h
  obtain ⟨k, hk⟩ := List.mem_iff_getElem?.mp hx
  exact ⟨k, x, hk, hp⟩

theorem eq_of_countP_le_one {α} {p : α → Bool} {l : List α} (h : l.countP p ≤ 1) {x y : α}
    (hx : x ∈ l) (hy : y ∈ l) (px : p x = true) (py : p y = true) : x = y := by
  induction l with
  | nil => cases hx
  | cons a l ih =>
    rw [List.countP_cons] at h
    rcases List.mem_cons.mp hx with rfl | hx' <;> rcases List.mem_cons.mp hy with rfl | hy'
    · rfl
    · have := countP_pos_of_mem p l y hy' py; rw [if_pos px] at h; omega
    · have := countP_pos_of_mem p l x hx' px; rw [if_pos py] at h; omega
    · exact ih (by omega) hx' hy'

theorem forall_mem_set {α} {P : α → Prop} {l : List α} (h : ∀ x ∈ l, P x) (i : Nat) {v : α} (hv : P v) :
    ∀ x ∈ l.set i v, P x := fun x hx =>
  (List.mem_or_eq_of_mem_set hx).elim (h x) (· ▸ hv)

theorem mem_set_of_ne {α} {l : List α} {i : Nat} {old x : α} (h : l[i]? = some old) (hne : old ≠ x) (hx : x ∈ l)
    (new : α) : x ∈ l.set i new := by
  obtain ⟨k, hk⟩ := List.mem_iff_getElem?.mp hx
  have hik : i ≠ k := fun e => hne (Option.some.inj (h.symm.trans (e ▸ hk)))
  exact List.mem_of_getElem? ((List.getElem?_set_ne hik).trans hk)

/-- the fold is `run` of both thread models: a step that is not enabled is skipped -/
theorem run_preserves {σ α} (step : α → σ → Option σ) {P : σ → Prop}
    (h : ∀ a s s', P s → step a s = some s' → P s') (sched : List α) :
    ∀ s, P s → P (sched.foldl (fun s a => (step a s).getD s) s) := by
  induction sched with
  | nil => intro s hp; exact hp
  | cons a r ih =>
    intro s hp
    rw [List.foldl_cons]
    cases hs : step a s with
    | none => exact ih s hp
    | some s' => exact ih s' (h a s s' hp hs)

end Pw
